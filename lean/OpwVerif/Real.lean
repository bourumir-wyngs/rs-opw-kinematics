/-
  The proof reading of the model: `OpwNum ℝ`.  Everything the theorems say is about the program
  text of `Kin.lean`, `Geom.lean`, … evaluated with exact real arithmetic (no NaN, no rounding).
-/
import OpwVerif.Num
import Mathlib.Analysis.SpecialFunctions.Trigonometric.Basic
import Mathlib.Analysis.SpecialFunctions.Trigonometric.Inverse
import Mathlib.Analysis.SpecialFunctions.Complex.Arg
import Mathlib.Analysis.Real.Sqrt
import Mathlib.Algebra.Order.Floor.Ring
import Mathlib.Tactic.Ring
import Mathlib.Tactic.Linarith
import Mathlib.Tactic.FieldSimp
import Mathlib.Tactic.LinearCombination

namespace Opw
open Classical in
/-- Where ℝ has no counterpart of an `f64` behaviour the instance takes a total stand-in: `fmod` truncates the
quotient towards zero like C (floor for a non-negative quotient, ceiling otherwise) and is `x` at `y = 0`, where C
gives NaN; `signum 0 = 1` as for `+0.0`; `atan2 0 0 = arg 0 = 0`; nothing is non-finite. -/
noncomputable instance instOpwNumReal : OpwNum ℝ where
  ofNat n := (n : ℝ)
  ofDyadic m e := (m : ℝ) * (2 : ℝ) ^ e
  pi := Real.pi
  sin := Real.sin
  cos := Real.cos
  acos := Real.arccos
  sqrt := Real.sqrt
  abs x := |x|
  atan2 y x := Complex.arg ⟨x, y⟩
  fmod x y := if 0 ≤ x / y then x - y * ⌊x / y⌋ else x - y * ⌈x / y⌉
  signum x := if 0 ≤ x then 1 else -1
  isFinite _ := true
  isNaN _ := false
  beq a b := decide (a = b)
  ceilNat x := ⌈x⌉₊
  decLt := fun _ _ => Classical.propDecidable _
  decLe := fun _ _ => Classical.propDecidable _

/-! Unfolding lemmas, by `rfl` except where a cast has to be normalised.  The tagged ones turn the model's
operations into Mathlib's under `simp`; `feq_real` and `twoPi_real` are passed by hand.

A numeral in model text is `@OfNat.ofNat ℝ n instOfNatOpw` (the low-priority instance of `Num.lean`), a different
term from Mathlib's numeral `(n : ℝ)`: no arithmetic lemma matches it until `lit0`, `lit1`, `lit2`, `lit4` have
rewritten it.  `ofNatLit_real` says the same for every `k` (`rw [ofNatLit_real]; push_cast` for a numeral that has no
lemma of its own), but its left side also unifies with Mathlib's own numerals, so under `simp` it loops with
`Nat.cast_ofNat`; it is no `simp` lemma. -/
section
variable (x y : ℝ) (n : ℕ)

@[simp] theorem ofNat_real : (OpwNum.ofNat n : ℝ) = (n : ℝ) := rfl
theorem ofNatLit_real {k : ℕ} : (@OfNat.ofNat ℝ k instOfNatOpw) = (k : ℝ) := rfl
theorem lit0 : (@OfNat.ofNat ℝ 0 instOfNatOpw) = (0 : ℝ) := by
  show ((0 : ℕ) : ℝ) = 0; exact Nat.cast_zero
theorem lit1 : (@OfNat.ofNat ℝ 1 instOfNatOpw) = (1 : ℝ) := by
  show ((1 : ℕ) : ℝ) = 1; exact Nat.cast_one
theorem lit2 : (@OfNat.ofNat ℝ 2 instOfNatOpw) = (2 : ℝ) := by
  show ((2 : ℕ) : ℝ) = 2; exact Nat.cast_ofNat
theorem lit4 : (@OfNat.ofNat ℝ 4 instOfNatOpw) = (4 : ℝ) := by
  show ((4 : ℕ) : ℝ) = 4; exact Nat.cast_ofNat
@[simp] theorem pi_real : (OpwNum.pi : ℝ) = Real.pi := rfl
@[simp] theorem pi_def_real : (pi : ℝ) = Real.pi := rfl
@[simp] theorem nsin_real : nsin x = Real.sin x := rfl
@[simp] theorem ncos_real : ncos x = Real.cos x := rfl
@[simp] theorem nsqrt_real : nsqrt x = Real.sqrt x := rfl
@[simp] theorem nacos_real : nacos x = Real.arccos x := rfl
@[simp] theorem nabs_real : nabs x = |x| := rfl
@[simp] theorem natan2_real : natan2 y x = Complex.arg ⟨x, y⟩ := rfl
@[simp] theorem fin_real : fin x = true := rfl
@[simp] theorem isNaN_real : isNaN x = false := rfl
@[simp] theorem sin_real : (OpwNum.sin x : ℝ) = Real.sin x := rfl
@[simp] theorem cos_real : (OpwNum.cos x : ℝ) = Real.cos x := rfl
@[simp] theorem sqrt_real : (OpwNum.sqrt x : ℝ) = Real.sqrt x := rfl
@[simp] theorem abs_real : (OpwNum.abs x : ℝ) = |x| := rfl
@[simp] theorem atan2_real : (OpwNum.atan2 y x : ℝ) = Complex.arg ⟨x, y⟩ := rfl
@[simp] theorem acos_real : (OpwNum.acos x : ℝ) = Real.arccos x := rfl
theorem feq_real : feq x y = decide (x = y) := rfl
theorem twoPi_real : (twoPi : ℝ) = 2 * Real.pi := by
  show (OfNat.ofNat 2 : ℝ) * Real.pi = 2 * Real.pi
  rfl
end

/-! Arithmetic at a GENERIC number type under a Mathlib import.  `instOfNatOpw` has low priority and the parent
instances of `OpwNum` are older than Mathlib's, so that at `ℝ` Mathlib's numerals and operations are found.  The price
is paid at a generic `R` with only `[OpwNum R]`: for every literal, `+`, `*`, `-`, `/`, `<`, `≤` the instance search first
walks Mathlib's algebraic and order classes, fails, and only then finds these (60 to 300 thousand heartbeats each time,
once more in every tactic step that elaborates such a term).  A section whose `R` is generic says `open scoped GenericNum`:
the same instances, found first, so every term elaborates as before.  The scope must not reach a statement about `ℝ`
(its numerals would become the model's). -/
namespace GenericNum
attribute [scoped instance 2000] instOfNatOpw OpwNum.toAdd OpwNum.toSub OpwNum.toMul OpwNum.toDiv OpwNum.toNeg
  OpwNum.toLT OpwNum.toLE
end GenericNum

end Opw
