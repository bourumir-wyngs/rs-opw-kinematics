/-
  C02, clause "the answer set … has the same size for the pose of each returned solution".

  `inverse_intern` reads the requested pose only through its translation and its rotation MATRIX
  (`thetaCandidates` uses `pose.t` and `pose.q.toMat`; the run-time cross-check `compare_poses` uses the
  translation and `angle_to`, which does not see the sign of a unit quaternion).  A returned answer `s`
  reproduces the requested pose as a rigid motion (C02d) — its quaternion may be `−q` instead of `q`
  (`from_rotation_matrix ∘ to_rotation_matrix`) — so asking the solver for `forward s` gives THE SAME
  LIST of answers, in particular a list of the same size.  (`C02c.same_count_of_match` has the same
  conclusion for the matching answer and its twin under equality of quaternions; here equality of
  rigid motions suffices.)

  The model text of `Kin.lean` in exact real arithmetic; the argument is in `Lemmas/IkSame.lean`,
  the vocabulary is that of `Props/C02d.lean`.
-/
import OpwVerif.Lemmas.IkSame
import OpwVerif.Props.C02d
namespace Opw.C02e
open Opw Opw.Wrist Opw.C02 Opw.IkComplete Opw.IkSound Opw.IkSame

/-- two poses with unit quaternions that are the same rigid motion (the quaternions may differ in
sign) get the same answer list from `inverse_intern`.  The second unit hypothesis is redundant
(`IkSame.unit_of_same`) and not used. -/
theorem inverseIntern_congr_same (p : Params ℝ) {a b : Iso ℝ} (ha : a.q.normSq = 1)
    (hb : b.q.normSq = 1) (h : Iso.Same a b) : inverseIntern p a = inverseIntern p b :=
  inverseIntern_congr p ha h

/-- the two ingredients: the raw candidates coincide, and `compare_poses` against either pose
gives the same verdict for every third pose and all tolerances (`angle_to` does not see the sign of
a unit quaternion) -/
theorem solver_reads_motion_only (p : Params ℝ) {a b : Iso ℝ} (ha : a.q.normSq = 1)
    (hb : b.q.normSq = 1) (h : Iso.Same a b) :
    thetaCandidates p a = thetaCandidates p b ∧
      ∀ (x : Iso ℝ) (dT aT : ℝ), comparePoses a x dT aT = comparePoses b x dT aT :=
  ⟨thetaCandidates_congr p h, comparePoses_congr_left ha hb h⟩

/-- the same for the public `inverse` of a robot not declared 5-DOF, without constraints -/
theorem inverse_congr_same (k : Opw ℝ) (hdof : k.p.dof ≠ 5) (hcons : k.cons = none) {a b : Iso ℝ}
    (ha : a.q.normSq = 1) (h : Iso.Same a b) : k.inverse a = k.inverse b := by
  rw [C02.inverse_eq_intern k hdof hcons, C02.inverse_eq_intern k hdof hcons]
  exact inverseIntern_congr k.p ha h

/-- C02, same size, no reachability assumption on the other branches: for ANY pose and any `s`
that reproduces the pose as a rigid motion (true of every answer coming from a reaching,
wrist-regular candidate: `C02d.candidate_sound_joint`), the solver asked for the pose of `s` returns
the same list.  The pose need not have a unit quaternion (`forward p s` has one). -/
theorem same_size_of_sound_answer (p : Params ℝ) (pose : Iso ℝ) (s : J6 ℝ)
    (h : Iso.Same (forward p s) pose) :
    inverseIntern p (forward p s) = inverseIntern p pose ∧
      (inverseIntern p (forward p s)).length = (inverseIntern p pose).length := by
  have e := inverseIntern_congr p (forward_unit p s) h
  exact ⟨e, by rw [e]⟩

/-- … for the `i`-th raw candidate when its branch conditions hold: it gives an answer, and the
answer list for the pose of that answer is the answer list for the requested pose -/
theorem same_size_of_candidate (p : Params ℝ) (hs : SignsOk p) (pose : Iso ℝ) (hc : 0 < p.c2)
    (hk : 0 < kappa p) (hq : pose.q.normSq = 1) (i : ℕ) (t : J6 ℝ)
    (ht : (thetaCandidates p pose)[i]? = some t) (ha : ArmCond p pose i) (h5 : Real.sin t.j5 ≠ 0) :
    (jointsOf p t).map normPi ∈ inverseIntern p pose ∧
      inverseIntern p (forward p ((jointsOf p t).map normPi)) = inverseIntern p pose :=
  ⟨C02d.candidate_is_answer p hs pose hc hk hq i t ht ha h5,
   (same_size_of_sound_answer p pose _
     (C02d.candidate_sound_joint p hs pose hc hk hq i t ht ha h5).2.1).1⟩

/-- C02, same size for EVERY returned solution: if both shoulders reach the wrist centre and no
candidate is at the wrist singularity, then for every answer `s` of `inverse_intern p pose` the solver
asked for `forward p s` returns the same list, which has eight entries. -/
theorem same_size_for_every_answer (p : Params ℝ) (hs : SignsOk p) (pose : Iso ℝ) (hc : 0 < p.c2)
    (hk : 0 < kappa p) (hq : pose.q.normSq = 1) (hf : FrontReach p (wc p pose))
    (hb : BackReach p (wc p pose)) (hw : ∀ t ∈ thetaCandidates p pose, Real.sin t.j5 ≠ 0) :
    ∀ s ∈ inverseIntern p pose,
      inverseIntern p (forward p s) = inverseIntern p pose ∧
        (inverseIntern p (forward p s)).length = 8 := by
  obtain ⟨-, h8, hall⟩ := C02d.all_reachable_eight_answers p hs pose hc hk hq hf hb hw
  intro s hsm
  have e := (same_size_of_sound_answer p pose s (hall s hsm).2).1
  exact ⟨e, by rw [e, h8]⟩

/-- the same for the public `inverse` of a 6-DOF robot without constraints -/
theorem inverse_same_size_for_every_answer (k : Opw ℝ) (hs : SignsOk k.p) (hdof : k.p.dof ≠ 5)
    (hcons : k.cons = none) (pose : Iso ℝ) (hc : 0 < k.p.c2) (hk : 0 < kappa k.p)
    (hq : pose.q.normSq = 1) (hf : FrontReach k.p (wc k.p pose)) (hb : BackReach k.p (wc k.p pose))
    (hw : ∀ t ∈ thetaCandidates k.p pose, Real.sin t.j5 ≠ 0) :
    ∀ s ∈ k.inverse pose,
      k.inverse (forward k.p s) = k.inverse pose ∧ (k.inverse (forward k.p s)).length = 8 := by
  intro s hsm
  rw [C02.inverse_eq_intern k hdof hcons] at hsm ⊢
  rw [C02.inverse_eq_intern k hdof hcons]
  exact same_size_for_every_answer k.p hs pose hc hk hq hf hb hw s hsm

/-- … and any two returned solutions have answer sets of the same size (the same list) -/
theorem same_size_pairwise (p : Params ℝ) (hs : SignsOk p) (pose : Iso ℝ) (hc : 0 < p.c2)
    (hk : 0 < kappa p) (hq : pose.q.normSq = 1) (hf : FrontReach p (wc p pose))
    (hb : BackReach p (wc p pose)) (hw : ∀ t ∈ thetaCandidates p pose, Real.sin t.j5 ≠ 0)
    (s s' : J6 ℝ) (h : s ∈ inverseIntern p pose) (h' : s' ∈ inverseIntern p pose) :
    inverseIntern p (forward p s) = inverseIntern p (forward p s') :=
  ((same_size_for_every_answer p hs pose hc hk hq hf hb hw s h).1).trans
    ((same_size_for_every_answer p hs pose hc hk hq hf hb hw s' h').1).symm

/-- non-vacuity (`pX`, `poseX` of `Lemmas/IkSound.lean`): `poseX` and its sign-flipped twin are
different poses that are the same rigid motion -/
example : Iso.Same poseX ⟨poseX.t, poseX.q.neg⟩ ∧ poseX ≠ ⟨poseX.t, poseX.q.neg⟩ ∧
    inverseIntern pX poseX = inverseIntern pX ⟨poseX.t, poseX.q.neg⟩ := by
  refine ⟨Iso.same_neg poseX, ?_, inverseIntern_congr pX poseX_unit (Iso.same_neg poseX)⟩
  intro h
  have hw : (3 / 5 : ℝ) = -(3 / 5) := congrArg (fun x : Iso ℝ => x.q.w) h
  norm_num at hw

example : (inverseIntern pX poseX).length = 8 ∧ ∀ s ∈ inverseIntern pX poseX,
    inverseIntern pX (forward pX s) = inverseIntern pX poseX ∧
      (inverseIntern pX (forward pX s)).length = 8 :=
  ⟨(C02d.all_reachable_eight_answers pX signsOk_pX poseX c2_pX kappa_pX_pos
      poseX_unit frontReach_X backReach_X wristCond_X).2.1,
   same_size_for_every_answer pX signsOk_pX poseX c2_pX kappa_pX_pos
      poseX_unit frontReach_X backReach_X wristCond_X⟩

example : ∀ s ∈ (⟨pX, none⟩ : Opw ℝ).inverse poseX,
    (⟨pX, none⟩ : Opw ℝ).inverse (forward pX s) = (⟨pX, none⟩ : Opw ℝ).inverse poseX ∧
      ((⟨pX, none⟩ : Opw ℝ).inverse (forward pX s)).length = 8 :=
  inverse_same_size_for_every_answer ⟨pX, none⟩ signsOk_pX (by simp only [pX]; decide) rfl poseX c2_pX
    kappa_pX_pos poseX_unit frontReach_X backReach_X wristCond_X

example (i : ℕ) (t : J6 ℝ) (ht : (thetaCandidates pX poseX)[i]? = some t) :
    (jointsOf pX t).map normPi ∈ inverseIntern pX poseX ∧
      Iso.Same (forward pX ((jointsOf pX t).map normPi)) poseX ∧
      inverseIntern pX (forward pX ((jointsOf pX t).map normPi)) = inverseIntern pX poseX :=
  have h5 := wristCond_X t (List.mem_of_getElem? ht)
  have h := same_size_of_candidate pX signsOk_pX poseX c2_pX kappa_pX_pos poseX_unit i t ht
    (armCond_X i) h5
  ⟨h.1,
   (C02d.candidate_sound_joint pX signsOk_pX poseX c2_pX kappa_pX_pos poseX_unit i t ht (armCond_X i)
     h5).2.1,
   h.2⟩

end Opw.C02e
