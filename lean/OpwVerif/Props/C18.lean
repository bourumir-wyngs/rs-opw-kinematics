/-
  C18 — Constraint sampler (`constraints.rs::random_angles`): every joint vector produced by the
  sampler is accepted by the same constraints, for ordinary (`from < to`) and wrap-around
  (`from > to`) ranges alike, wherever the limits lie relative to zero and to a full turn; and the
  call never panics for limits that describe an arc of positive width.

  The random draw is the parameter `u ∈ [0, sampleSpan f t)`: this is the contract of
  `gen_range(0.0..len)`, which panics iff `len ≤ 0`.  In the model `randomAngle` calls `gen_range`
  in the `from < to` branch and, for `from ≥ to`, only when `sampleSpan f t > 0`.
  The property theorems; some restate a fact of `Lemmas/Sampler.lean` (namespace `Opw.MiscReal`) under
  this namespace, the one the check of C18 audits.
  Kinds: [R] real arithmetic (the model text evaluated at `ℝ`), [G] generic (any number type).
-/
import OpwVerif.Lemmas.Sampler
import OpwVerif.Props.C07
namespace Opw.C18
open Opw Opw.Limits Opw.C07 Opw.MiscReal Real

/-- [R] the sampler's span; for a wrap-around range it is the width of the arc the constraint check
(C07) uses -/
theorem sampleSpan_pos (f t : ℝ) :
    (f < t → 0 < sampleSpan f t) ∧
    (t < f → (¬ ∃ n : ℤ, f - t = 2 * π * n) → 0 < sampleSpan f t ∧ sampleSpan f t < 2 * π) ∧
    (t < f → sampleSpan f t = unwrapTop f t - f) := by
  refine ⟨fun h => ?_, fun h hn => ⟨sampleSpan_pos_of_gt h hn, sampleSpan_lt_of_gt h⟩,
    fun h => sampleSpan_eq_unwrapTop_sub h⟩
  rw [sampleSpan_of_lt h]; exact sub_pos.2 h

theorem sampleSpan_ordinary {f t : ℝ} (h : f < t) : sampleSpan f t = t - f := sampleSpan_of_lt h

theorem sampleSpan_wrap {f t : ℝ} (h1 : t < f) (h2 : f ≤ t + 2 * π) :
    sampleSpan f t = t - f + 2 * π := by
  rw [sampleSpan_eq_unwrapTop_sub h1, unwrapTop_of_wrap h1 h2, add_sub_right_comm]

/-- [R] equal limits (unconstrained joint): a full turn is sampled -/
theorem sampleSpan_unconstrained (f : ℝ) : sampleSpan f f = 2 * π := sampleSpan_of_eq f

/-- [R] no panic: whenever the model reaches `gen_range(0.0..len)` — `from < to`, or `from ≥ to` with
the guard `len > 0` — the range is non-empty -/
theorem gen_range_nonempty (f t : ℝ) :
    (f < t → 0 < sampleSpan f t) ∧ (f = t → 0 < sampleSpan f t) ∧
    (t < f → (¬ ∃ n : ℤ, f - t = 2 * π * n) → 0 < sampleSpan f t) := by
  refine ⟨(sampleSpan_pos f t).1, ?_, fun h hn => ((sampleSpan_pos f t).2.1 h hn).1⟩
  rintro rfl
  rw [sampleSpan_of_eq]; exact Real.two_pi_pos

section
open scoped GenericNum

/-- [G] `gen_range` is called exactly when `from < to` or the span is positive; otherwise the lower
limit is returned without drawing -/
theorem randomAngle_cases {R : Type} [OpwNum R] (f t u : R) :
    ((f < t ∨ sampleSpan f t > 0) → randomAngle f t u = f + u) ∧
    (¬ (f < t) → ¬ (sampleSpan f t > 0) → randomAngle f t u = f) := by
  unfold randomAngle
  constructor
  · rintro (h | h)
    · rw [if_pos h]
    · rw [if_pos h, ite_self]
  · intro h1 h2
    rw [if_neg h1, if_neg h2]

end

theorem sampleSpan_eq_width {f t : ℝ} (hne : f ≠ t) : sampleSpan f t = unwrapTop f t - f := by
  rcases lt_or_gt_of_ne hne with hlt | hgt
  · rw [sampleSpan_of_lt hlt, unwrapTop_of_le hlt.le]
  · exact sampleSpan_eq_unwrapTop_sub hgt

/-- [R] the sample never reaches the upper end of the arc (half-open draw), and starts at `from` -/
theorem sample_range {f t u : ℝ} (hne : f ≠ t) (hu0 : 0 ≤ u) (hu : u < sampleSpan f t) :
    f ≤ randomAngle f t u ∧ randomAngle f t u < unwrapTop f t := by
  rw [randomAngle_of_pos u (lt_of_le_of_lt hu0 hu)]
  rw [sampleSpan_eq_width hne] at hu
  exact ⟨le_add_of_nonneg_right hu0, lt_sub_iff_add_lt'.1 hu⟩

/-- [R] a draw `u ∈ [0, span)` gives an accepted angle -/
theorem sample_on_arc {f t u : ℝ} (h : LimOk f t) (hu0 : 0 ≤ u) (hu : u < sampleSpan f t) :
    insideBounds (randomAngle f t u) (centerTol f t).1 (centerTol f t).2 = true := by
  rw [inside_iff_onArc h]
  exact onArc_of_mem (sample_range h.1 hu0 hu).1 (sample_range h.1 hu0 hu).2.le

/-- [R] zero-width wrap-around range: nothing is drawn, the lower limit is returned -/
theorem sample_zero_width {f t : ℝ} (u : ℝ) (h0 : sampleSpan f t = 0) : randomAngle f t u = f := by
  apply randomAngle_of_not_pos
  · exact fun hlt => ((sampleSpan_pos f t).1 hlt).ne' h0
  · rw [h0]; exact lt_irrefl (0 : ℝ)

/-- [R] a zero-width arc returns `from`, which is accepted -/
theorem sample_zero_width_accepted {f t : ℝ} (u : ℝ) (h : LimOk f t) (h0 : sampleSpan f t = 0) :
    insideBounds (randomAngle f t u) (centerTol f t).1 (centerTol f t).2 = true := by
  rw [sample_zero_width u h0]; exact from_accepted h

theorem sampleSpan_eq_zero_iff {f t : ℝ} (hne : f ≠ t) :
    sampleSpan f t = 0 ↔ t < f ∧ ∃ n : ℤ, f - t = 2 * π * n := by
  constructor
  · intro h0
    rcases lt_or_gt_of_ne hne with hlt | hgt
    · rw [sampleSpan_of_lt hlt] at h0
      exact absurd (sub_eq_zero.1 h0).symm hne
    · obtain ⟨n, hn⟩ := unwrapTop_turns f t
      rw [sampleSpan_eq_width hne, hn] at h0
      exact ⟨hgt, n, by rw [Int.cast_natCast, sub_eq_iff_eq_add', sub_eq_zero.1 h0]⟩
  · rintro ⟨hgt, n, hn⟩
    have e : t - f = 2 * π * ((-n : ℤ) : ℝ) := by rw [Int.cast_neg, mul_neg, ← hn, neg_sub]
    rw [sampleSpan_of_gt hgt, e, mul_div_cancel_left₀ _ two_pi_pos.ne', Int.floor_intCast, sub_self]

/-- [R] whatever the model returns for a draw within the contract of `gen_range` (or without a draw
when the span is not positive) is accepted -/
theorem sample_accepted {f t u : ℝ} (h : LimOk f t)
    (hdraw : 0 < sampleSpan f t → 0 ≤ u ∧ u < sampleSpan f t) :
    insideBounds (randomAngle f t u) (centerTol f t).1 (centerTol f t).2 = true := by
  by_cases hp : 0 < sampleSpan f t
  · exact sample_on_arc h (hdraw hp).1 (hdraw hp).2
  · refine sample_zero_width_accepted u h (le_antisymm (not_lt.mp hp) ?_)
    rw [sampleSpan_eq_width h.1]
    exact sub_nonneg.2 (unwrapTop_ge f t)

/-- the draw for one joint respects the contract of `gen_range(0.0..len)` -/
def DrawOk (f t u : ℝ) : Prop := 0 ≤ u ∧ u < sampleSpan f t

/-- [R] `random_angles` on a constraint set built by `Constraints::new` returns a compliant joint
vector, for every admissible draw (for a zero-width joint no draw is made and `u` is irrelevant) -/
theorem samples_compliant' (fr tt : J6 ℝ) (w : ℝ) (u : J6 ℝ) (h : LimsOk fr tt)
    (d1 : 0 < sampleSpan fr.j1 tt.j1 → DrawOk fr.j1 tt.j1 u.j1)
    (d2 : 0 < sampleSpan fr.j2 tt.j2 → DrawOk fr.j2 tt.j2 u.j2)
    (d3 : 0 < sampleSpan fr.j3 tt.j3 → DrawOk fr.j3 tt.j3 u.j3)
    (d4 : 0 < sampleSpan fr.j4 tt.j4 → DrawOk fr.j4 tt.j4 u.j4)
    (d5 : 0 < sampleSpan fr.j5 tt.j5 → DrawOk fr.j5 tt.j5 u.j5)
    (d6 : 0 < sampleSpan fr.j6 tt.j6 → DrawOk fr.j6 tt.j6 u.j6) :
    (Constraints.mk' fr tt w).compliant (randomAngles (Constraints.mk' fr tt w) u) = true :=
  (compliant_mk' fr tt w _).2 ⟨sample_accepted h.1 d1, sample_accepted h.2.1 d2,
    sample_accepted h.2.2.1 d3, sample_accepted h.2.2.2.1 d4, sample_accepted h.2.2.2.2.1 d5,
    sample_accepted h.2.2.2.2.2 d6⟩

/-- [R] six joints, each with an admissible draw: the sample is compliant -/
theorem samples_compliant (fr tt : J6 ℝ) (w : ℝ) (u : J6 ℝ) (h : LimsOk fr tt)
    (d1 : DrawOk fr.j1 tt.j1 u.j1) (d2 : DrawOk fr.j2 tt.j2 u.j2) (d3 : DrawOk fr.j3 tt.j3 u.j3)
    (d4 : DrawOk fr.j4 tt.j4 u.j4) (d5 : DrawOk fr.j5 tt.j5 u.j5) (d6 : DrawOk fr.j6 tt.j6 u.j6) :
    (Constraints.mk' fr tt w).compliant (randomAngles (Constraints.mk' fr tt w) u) = true :=
  samples_compliant' fr tt w u h (fun _ => d1) (fun _ => d2) (fun _ => d3) (fun _ => d4) (fun _ => d5)
    (fun _ => d6)

section
open scoped GenericNum

/-- [G] `from == to` (Rust `==`): the sampler returns `from + u` or `from`, and either is accepted,
provided `1.0 / 0.0` is infinite in the number type (true for `f64`; see C07) -/
theorem sample_unconstrained {R : Type} [OpwNum R] (f t u : R) (h : feq f t = true)
    (hinf : isInfinite (infTol : R) = true) :
    (randomAngle f t u = f + u ∨ randomAngle f t u = f) ∧
    insideBounds (randomAngle f t u) (centerTol f t).1 (centerTol f t).2 = true := by
  refine ⟨?_, unconstrained_accepts f t _ h hinf⟩
  unfold randomAngle
  split_ifs
  · exact Or.inl rfl
  · exact Or.inl rfl
  · exact Or.inr rfl

/-- [G] for `from == to` not below `to`, the span handed to `gen_range` is the full turn `2π` -/
theorem sampleSpan_of_feq {R : Type} [OpwNum R] (f t : R) (hlt : ¬ f < t) (h : feq f t = true) :
    sampleSpan f t = 2 * pi := by
  unfold sampleSpan
  rw [if_neg hlt, if_pos h]

end

/-- a wrap-around range with both limits positive, `from = 5`, `to = 4`.
The span is `2π − 1 ≈ 5.28`, the draw `u = 3` gives the angle `8` (≡ `8 − 2π ≈ 1.72`), accepted. -/
example : LimOk 5 4 ∧ sampleSpan (5 : ℝ) 4 = 2 * π - 1 ∧ DrawOk 5 4 3 ∧ randomAngle (5 : ℝ) 4 3 = 8 ∧
    insideBounds (randomAngle (5 : ℝ) 4 3) (centerTol (5 : ℝ) 4).1 (centerTol (5 : ℝ) 4).2 = true := by
  have hp := pi_gt_three
  have hl : LimOk 5 4 :=
    limOk_of_abs_le_twelve (by norm_num) (by norm_num [abs_le]) (by norm_num [abs_le])
  have hs : sampleSpan (5 : ℝ) 4 = 2 * π - 1 := by
    rw [sampleSpan_wrap (by norm_num) (by linarith)]; ring
  have hd : DrawOk 5 4 3 := ⟨by norm_num, by rw [hs]; linarith⟩
  refine ⟨hl, hs, hd, ?_, sample_on_arc hl hd.1 hd.2⟩
  rw [randomAngle_of_pos 3 (lt_of_le_of_lt hd.1 hd.2)]
  norm_num

example : insideBounds (randomAngle (-1 : ℝ) 2 2.5) (centerTol (-1 : ℝ) 2).1 (centerTol (-1 : ℝ) 2).2 = true := by
  exact sample_on_arc
    (limOk_of_abs_le_twelve (by norm_num) (by norm_num [abs_le]) (by norm_num [abs_le]))
    (by norm_num) (by rw [sampleSpan_of_lt (by norm_num)]; norm_num)

/-- six joints, mixing wrap-around and ordinary ranges, satisfy all hypotheses of `samples_compliant` -/
example : (Constraints.mk' (⟨5, -1, 3, -2, 3, -3⟩ : J6 ℝ) ⟨4, 1, 1, 2, 1, 3⟩ 0).compliant
    (randomAngles (Constraints.mk' (⟨5, -1, 3, -2, 3, -3⟩ : J6 ℝ) ⟨4, 1, 1, 2, 1, 3⟩ 0) ⟨3, 1, 3, 3, 0, 5⟩) = true := by
  have h6 : (6 : ℝ) ≤ 2 * π := by linarith [pi_gt_three]
  have hw : ∀ f t u : ℝ, t < f → f ≤ t + 6 → 0 ≤ u → u < t - f + 6 → DrawOk f t u :=
    fun f t u h1 h2 h3 h4 => ⟨h3, by
      rw [sampleSpan_wrap h1 (h2.trans (add_le_add_right h6 t))]
      exact h4.trans_le (add_le_add_right h6 _)⟩
  have ho : ∀ f t u : ℝ, f < t → 0 ≤ u → u < t - f → DrawOk f t u :=
    fun f t u h1 h3 h4 => ⟨h3, by rwa [sampleSpan_of_lt h1]⟩
  apply samples_compliant
  · refine ⟨?_, ?_, ?_, ?_, ?_, ?_⟩ <;> apply limOk_of_abs_le_twelve <;> norm_num [abs_le]
  · exact hw 5 4 3 (by norm_num) (by norm_num) (by norm_num) (by norm_num)
  · exact ho (-1) 1 1 (by norm_num) (by norm_num) (by norm_num)
  · exact hw 3 1 3 (by norm_num) (by norm_num) (by norm_num) (by norm_num)
  · exact ho (-2) 2 3 (by norm_num) (by norm_num) (by norm_num)
  · exact hw 3 1 0 (by norm_num) (by norm_num) (by norm_num) (by norm_num)
  · exact ho (-3) 3 5 (by norm_num) (by norm_num) (by norm_num)

example : sampleSpan (2 * π) 0 = 0 ∧ randomAngle (2 * π) 0 1 = 2 * π := by
  have h2 := Real.two_pi_pos
  have h0 : sampleSpan (2 * π) 0 = 0 :=
    (sampleSpan_eq_zero_iff h2.ne').2 ⟨h2, 1, by rw [sub_zero, Int.cast_one, mul_one]⟩
  exact ⟨h0, sample_zero_width 1 h0⟩

end Opw.C18
