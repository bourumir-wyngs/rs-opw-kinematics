/-
  Source tie for the collision properties (C10, C11, C14): `Generated/SrcColl.lean`, which `tools/rs2lean_ctl.py coll`
  rewrites from the current text of collisions.rs on every run (the parry3d queries being the oracles
  `Scene.intersects / aabbNear / distance`), is the model: per-pair decision, safety distance, task list, the public
  methods of `RobotBody`, `non_colliding_offsets`.  Generic in the number type.
-/
import OpwVerif.Generated.SrcColl
namespace Opw.TieColl
variable {R : Type} [OpwNum R]

theorem ite_ite_nil {β : Type} (p q : Prop) [Decidable p] [Decidable q] (x : List β) :
    (if p then (if q then x else []) else []) = if p ∧ q then x else [] := by
  by_cases hp : p <;> simp only [hp, true_and, false_and, if_true, if_false]

/-- a loop that pushes at most one element per round is a `filterMap` -/
theorem flatMap_ite_singleton {α β : Type} (l : List α) (c : α → Prop) [DecidablePred c] (g : α → β) :
    l.flatMap (fun x => if c x then [g x] else []) =
      l.filterMap (fun x => if c x then some (g x) else none) := by
  induction l with
  | nil => rfl
  | cons a t ih =>
    rw [List.flatMap_cons, List.filterMap_cons, ih]
    by_cases h : c a
    · rw [if_pos h, if_pos h]
      rfl
    · rw [if_neg h, if_neg h]
      rfl

theorem tasksSrc_eq (sc : Scene R) (own : Safety R) (skip : List Nat) :
    SrcColl.tasksSrc sc own skip = tasks sc own skip := by
  unfold SrcColl.tasksSrc tasks
  -- nested guards become one conjunction; then both sides carry the same conjunction, written with
  -- `&&` or with `∧`
  simp only [ite_ite_nil, flatMap_ite_singleton, Bool.and_eq_true, decide_eq_true_eq, and_assoc]

theorem processTasksSrc_eq (sc : Scene R) (safety : Safety R) (om : Option CheckMode) (ts : List (Nat × Nat))
    (choice : List (Nat × Nat) → Option (Nat × Nat)) :
    SrcColl.processTasksSrc sc safety om ts choice = processTasks sc safety (om.getD safety.mode) ts choice := by
  unfold SrcColl.processTasksSrc processTasks
  cases om.getD safety.mode <;> rfl

theorem taskCollides_is_source (sc : Scene R) (safety : Safety R) (i j : Nat) :
    SrcColl.taskCollidesSrc (safety.minDistance i j) (sc.intersects i j)
      (sc.aabbNear i j (safety.minDistance i j)) (sc.distance i j) = taskCollides sc safety i j := rfl

-- the look-up does no arithmetic; the statement carries `[OpwNum R]` like the other ties
set_option linter.unusedSectionVars false in
/-- `SafetyDistances::min_distance` (branch order and index test included) -/
theorem minDistance_is_source (safety : Safety R) (i j : Nat) :
    SrcColl.minDistanceSrc safety i j = safety.minDistance i j := rfl

theorem taskCollides_is_source' (sc : Scene R) (safety : Safety R) (i j : Nat) :
    SrcColl.taskCollidesSrc (SrcColl.minDistanceSrc safety i j) (sc.intersects i j)
      (sc.aabbNear i j (SrcColl.minDistanceSrc safety i j)) (sc.distance i j) = taskCollides sc safety i j := rfl

/-- WHICH pairs of bodies are checked: the nested `for` / `if` / `if let` blocks of `detect_collisions_with_skips`, read
as list comprehensions, are the model's `tasks` (same pairs, same push order), gated by `check_required` as the source
defines it.  That each push hands over the pose and mesh of its own two indices is checked by the translator. -/
theorem tasks_is_source (sc : Scene R) (own : Safety R) (skip : List Nat) (i j : Nat) :
    SrcColl.tasksSrc sc own skip = tasks sc own skip ∧ SrcColl.checkRequiredSrc own skip i j = checkRequired own skip i j :=
  ⟨tasksSrc_eq sc own skip, rfl⟩

/-- `collision_details`, `near` (pairs still gated by the OWN table), `collides` and `process_collision_tasks` as the
source wires them are the model's functions of C10 -/
theorem robotBody_is_source (sc : Scene R) (own other : Safety R) (om : Option CheckMode) (ts : List (Nat × Nat))
    (choice : List (Nat × Nat) → Option (Nat × Nat)) :
    SrcColl.collisionDetailsSrc sc own other choice = collisionDetails sc own choice ∧
    SrcColl.nearSrc sc own other choice = near sc own other choice ∧
    SrcColl.collidesSrc sc own choice = collides sc own choice ∧
    SrcColl.processTasksSrc sc other om ts choice = processTasks sc other (om.getD other.mode) ts choice := by
  -- `collision_details`, `near` and `collides` all go through `process_collision_tasks` on the task list
  have hd (safety : Safety R) (om' : Option CheckMode) :
      SrcColl.processTasksSrc sc safety om' (SrcColl.tasksSrc sc own []) choice =
        detect sc own safety om' [] choice := by
    rw [processTasksSrc_eq, tasksSrc_eq]; rfl
  refine ⟨hd own none, hd other none, ?_, processTasksSrc_eq ..⟩
  unfold SrcColl.collidesSrc collides
  rw [hd]

/-- `RobotBody::non_colliding_offsets`, which the translator reads as one idiom, is the model's `nonCollidingOffsets`
of C14 -/
theorem nonCollidingOffsets_is_source (sceneAt : J6 R → Scene R) (unchanged : J6 R → Nat → Bool) (own : Safety R)
    (cons : Option (Constraints R)) (initial f t : J6 R) (choice : List (Nat × Nat) → Option (Nat × Nat)) :
    SrcColl.nonCollidingOffsetsSrc sceneAt unchanged own cons initial f t choice =
      nonCollidingOffsets sceneAt unchanged own cons initial f t choice := by
  unfold SrcColl.nonCollidingOffsetsSrc nonCollidingOffsets
  -- the source pairs the joint index with the target vector and sets the joint inside the loop body
  have hc : offsetCandidates initial f t =
      ((List.range 6).flatMap fun k => [f, t].map fun target => (k, target)).map
        fun kt => (kt.1, initial.set kt.1 (kt.2.get kt.1)) := by
    simp only [offsetCandidates, List.map_flatMap, List.map_cons, List.map_nil]
  rw [hc, List.filterMap_map]
  congr 1
  funext kt
  simp only [Function.comp, processTasksSrc_eq, tasksSrc_eq, detect, skipOf]
  cases cons <;> rfl

end Opw.TieColl
