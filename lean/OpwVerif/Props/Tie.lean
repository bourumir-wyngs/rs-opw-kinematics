/-
  Source ties: the model's definitions ARE what the translators `tools/rs2lean*.py` print from the source text
  of THIS run into `Generated/*.lean`.  One theorem `…_is_source` per translated function or group:
  the closed-form formulas of `kinematics_impl.rs` (`thetaOf`, `forwardTheta`, `thetaCandidates`, the 5-DOF table,
  the link chain); its branching helpers with their loops; the wrappers Tool / Base / Frame / Parallelogram /
  KinematicsWithShape method by method; the entry points of the bare solver and one iteration of the shift loop;
  `Frame::frame`; the Jacobian column; `LinearAxis` / `Gantry`; `Constraints::compliant` / `filter`.
  Most hold by `rfl`, for any number type.  For `forward` the theorems over ℝ also accept a text that differs from
  the model by ring normalisation; the generic equations of `Lemmas/SrcTie.lean` (theorems in their own right, for
  any number type; imported here so that every check that builds this file builds them) accept the literal text only.  Collisions, the stroke planner and the constraint object are tied in `TieColl.lean`,
  `TieCart.lean`, `TieCons.lean`.
-/
import OpwVerif.Lemmas.SrcTie
import OpwVerif.Generated.SrcWrap
import OpwVerif.Generated.SrcOpw
import OpwVerif.Generated.SrcFrame
import OpwVerif.Generated.SrcJac
import OpwVerif.Lemmas.Fk

namespace Opw.Tie
open Opw
/-! Over ℝ the closed form of `forward` is accepted up to ring normalisation: `rfl` if the translated text is
definitionally the model, otherwise both sides are unfolded and compared entry by entry with `ring`. -/
section
set_option linter.unusedTactic false
set_option linter.unreachableTactic false

theorem thetaOf_is_source (p : Params ℝ) (j : J6 ℝ) : Src.thetaOfSrc p j = thetaOf p j := by
  first
  | rfl
  | (simp only [Src.thetaOfSrc, thetaOf]; congr 1 <;> ring)

theorem forwardTheta_is_source (p : Params ℝ) (q : J6 ℝ) : Src.forwardThetaSrc p q = forwardTheta p q := by
  first
  | rfl
  | (simp only [Src.forwardThetaSrc, forwardTheta, r0c, rce, M3.mul, M3.scaleL, M3.mulVec, V3.add, V3.ez,
       nsin_real, ncos_real, nsqrt_real, natan2_real, lit0, lit1, lit2]
     refine Prod.ext ?_ ?_
     · apply M3.ext' <;> first | rfl | ring
     · apply V3.ext' <;> first | rfl | ring)

end

theorem thetaCandidates_is_source (p : Params ℝ) (pose : Iso ℝ) :
    Src.thetaCandidatesSrc p pose = thetaCandidates p pose :=
  -- the inverse formulas go through atan2/acos/sqrt: only the literal text is accepted here
  rfl

/-- `inverse_intern_5_dof` is a hand-duplicated copy of the position part of `inverse_intern`: its 8 × 5 table,
translated from the source, is the first five columns of the 8 × 6 table (generic in the number type) -/
theorem thetaCandidates5_is_source {R : Type} [OpwNum R] (p : Params R) (pose : Iso R) :
    Src.thetaCandidates5Src p pose = (thetaCandidates p pose).map (fun t => { t with j6 := 0 }) := rfl

/-- … and the model's `inverse_intern_5_dof` is the source's table put through the model's post-processing -/
theorem inverseIntern5_is_source {R : Type} [OpwNum R] (p : Params R) (pose : Iso R) (j6 : R) :
    inverseIntern5 p pose j6 =
      (Src.thetaCandidates5Src p pose).filterMap (fun t => finishCandidate5 p pose j6 (jointsOf p t)) := by
  rw [thetaCandidates5_is_source, List.filterMap_map]
  rfl

/-- `forward_with_joint_poses`: its own copy of the sign/offset map and its chain of six link transforms, translated
from the source, are the model's `chain` (generic in the number type) -/
theorem chain_is_source {R : Type} [OpwNum R] (p : Params R) (j : J6 R) :
    Src.chainThetaSrc p (Src.thetaOfChainSrc p j) = chain p j := rfl

/-- consequence used by C03: the source's closed form is the reference chain -/
theorem source_closed_form_eq_reference_chain (p : Params ℝ) (q : J6 ℝ) :
    Src.forwardThetaSrc p q = (rot6 q, org6 p q) := by
  rw [forwardTheta_is_source]
  ext
  · exact forwardTheta_rot p q
  · exact forwardTheta_tr p q

/-! ### Branching helpers (`Generated/SrcCtl.lean`, translated statement by statement by `tools/rs2lean_ctl.py`).
Generic in the number type: they hold of the `Float` reading as well as of ℝ.  `while` loops are compared
with the model's fuel-bounded loops for EVERY fuel. -/
section
variable {R : Type} [OpwNum R]

theorem isCloseToMultipleOfPi_is_source (v thr : R) :
    SrcCtl.isCloseToMultipleOfPiSrc v thr = isCloseToMultipleOfPi v thr := rfl

theorem areAnglesClose_loop_is_source (n : Nat) (d : R) : SrcCtl.areAnglesCloseSrcLoop n d = foldDiff n d := by
  induction n generalizing d with
  | zero => rfl
  | succ n ih => simp only [SrcCtl.areAnglesCloseSrcLoop, foldDiff, ih]

theorem areAnglesClose_is_source (a b : R) : SrcCtl.areAnglesCloseSrc a b = areAnglesClose a b := by
  simp only [SrcCtl.areAnglesCloseSrc, areAnglesClose, areAnglesClose_loop_is_source]

theorem normalizeNear_is_source (now prev : R) : SrcCtl.normalizeNearSrc now prev = normalizeNear now prev := rfl

theorem comparePoses_is_source (ta tb : Iso R) (dT aT : R) :
    SrcCtl.comparePosesSrc (ta.t.sub tb.t).norm (Quat.angleTo ta.q tb.q) dT aT = comparePoses ta tb dT aT := rfl

theorem kinematicSingularity_is_source (p : Params R) (j : J6 R) :
    SrcCtl.kinematicSingularitySrc p j = kinematicSingularity p j := by
  show (if kinematicSingularity p j = true then true else false) = kinematicSingularity p j
  cases kinematicSingularity p j <;> rfl

/-- the two `while` loops of the wrist-singular recovery (`angle > PI`, `angle < -PI`) -/
theorem singularCandidateSrcLoop_eq (n : Nat) (x : R) : SrcCtl.singularCandidateSrcLoop n x = loopDown n x := by
  induction n generalizing x with
  | zero => rfl
  | succ n ih => simp only [SrcCtl.singularCandidateSrcLoop, loopDown, ih]

theorem singularCandidateSrcLoop2_eq (n : Nat) (x : R) : SrcCtl.singularCandidateSrcLoop2 n x = loopUp n x := by
  induction n generalizing x with
  | zero => rfl
  | succ n ih => simp only [SrcCtl.singularCandidateSrcLoop2, loopUp, ih]

/-- [G] the wrist-singular recovery of `inverse_continuing` (which of the two
J4/J6 combinations, the two `while` wraps of their difference into [-pi, pi], half of it added to the previous J4 and J6 with
their signs, J5 brought next to the previous J5 in the 180-degree case) is the model's `singularCandidate`, on which the C05
theorems (`C05.recovery_equal_shift`, `recovery_sum_preserved`, `recovery_diff_previous`) are stated -/
theorem singularCandidate_is_source (p : Params R) (previous now : J6 R) :
    SrcCtl.singularCandidateSrc p previous now =
      ((singularCandidate p previous now).j4, (singularCandidate p previous now).j5, (singularCandidate p previous now).j6) ∧
    (singularCandidate p previous now).j1 = now.j1 ∧ (singularCandidate p previous now).j2 = now.j2 ∧
    (singularCandidate p previous now).j3 = now.j3 := by
  refine ⟨?_, rfl, rfl, rfl⟩
  simp only [SrcCtl.singularCandidateSrc, singularCandidate, singularCandidateSrcLoop_eq, singularCandidateSrcLoop2_eq,
    areAnglesClose_is_source, normalizeNear_is_source, normPi, normPiF]
  split <;> rfl

/-- [G] the cost the source sorts continuation answers by is the model's `sortCost`: the weighted comparator (robots
with limits and a sorting weight other than BY_PREV) computes `(sortCost a, sortCost b)` from the four distances, and in the
other case the source's plain comparator is distance-to-previous (translator check), which is `sortCost` too -/
theorem sortCost_is_source (k : Opw R) (previous a b : J6 R) :
    (∀ c, k.cons = some c → feq c.sortingWeight byPrev = false →
      SrcCtl.sortCostPairSrc c.sortingWeight (calculateDistance a previous) (calculateDistance b previous)
        (calculateDistance a c.centers) (calculateDistance b c.centers) = (k.sortCost previous a, k.sortCost previous b)) ∧
    ((k.cons = none ∨ ∃ c, k.cons = some c ∧ feq c.sortingWeight byPrev = true) →
      k.sortCost previous a = calculateDistance a previous) := by
  refine ⟨fun c hc hw => ?_, ?_⟩
  · simp only [SrcCtl.sortCostPairSrc, Opw.sortCost, hc, hw]
    by_cases h : feq c.sortingWeight byConstraints = true
    · simp only [h, Bool.not_true, Bool.false_eq_true, ↓reduceIte]
    · simp only [Bool.eq_false_iff.mpr h, Bool.not_false, ↓reduceIte, Bool.false_eq_true]
  · rintro (h | ⟨c, hc, hw⟩)
    · simp only [Opw.sortCost, h]
    · simp only [Opw.sortCost, hc, hw, ↓reduceIte]

theorem insideBounds_is_source (angle centre tol : R) :
    SrcCtl.insideBoundsSrc angle centre tol = insideBounds angle centre tol := rfl

theorem computeCenters_loop_is_source (n : Nat) (a b : R) : SrcCtl.centerTolSrcLoop a n b = unwrapTo n a b := by
  induction n generalizing b with
  | zero => rfl
  | succ n ih => simp only [SrcCtl.centerTolSrcLoop, unwrapTo, ih]

theorem computeCenters_is_source (a b : R) : SrcCtl.centerTolSrc a b = centerTol a b := by
  simp only [SrcCtl.centerTolSrc, centerTol, computeCenters_loop_is_source]
  cases feq a b
  · simp only [Bool.false_eq_true, if_false]
    split <;> rfl
  · rfl

end

/-! ### The wrappers (`Generated/SrcWrap.lean`, translated by `tools/rs2lean_wrap.py` from tool.rs, frame.rs,
parallelogram.rs): every `Kinematics` method of Tool, Base, Frame and Parallelogram that transforms a pose, a joint
vector or an answer list, and `Frame::forward_transformed`, is the corresponding clause of the model's `Kin`. -/
section
variable {R : Type} [OpwNum R]

theorem tool_is_source (i : Kin R) (t pose : Iso R) (prev q : J6 R) (j6 : R) :
    SrcWrap.toolInverse i t pose = (Kin.tool i t).inverse pose ∧
    SrcWrap.toolInverseContinuing i t pose prev = (Kin.tool i t).inverseContinuing pose prev ∧
    SrcWrap.toolInverse5dof i t pose j6 = (Kin.tool i t).inverse5dof pose j6 ∧
    SrcWrap.toolInverseContinuing5dof i t pose prev = (Kin.tool i t).inverseContinuing5dof pose prev ∧
    SrcWrap.toolForward i t q = (Kin.tool i t).forward q ∧ SrcWrap.toolLinks i t q = (Kin.tool i t).links q :=
  ⟨rfl, rfl, rfl, rfl, rfl, rfl⟩

theorem base_is_source (i : Kin R) (b pose : Iso R) (prev q : J6 R) (j6 : R) :
    SrcWrap.baseInverse i b pose = (Kin.base i b).inverse pose ∧
    SrcWrap.baseInverseContinuing i b pose prev = (Kin.base i b).inverseContinuing pose prev ∧
    SrcWrap.baseInverse5dof i b pose j6 = (Kin.base i b).inverse5dof pose j6 ∧
    SrcWrap.baseInverseContinuing5dof i b pose prev = (Kin.base i b).inverseContinuing5dof pose prev ∧
    SrcWrap.baseForward i b q = (Kin.base i b).forward q ∧ SrcWrap.baseLinks i b q = (Kin.base i b).links q :=
  ⟨rfl, rfl, rfl, rfl, rfl, rfl⟩

theorem frame_is_source (i : Kin R) (f pose : Iso R) (prev q : J6 R) (j6 : R) :
    SrcWrap.frameInverse i f pose = (Kin.frame i f).inverse pose ∧
    SrcWrap.frameInverseContinuing i f pose prev = (Kin.frame i f).inverseContinuing pose prev ∧
    SrcWrap.frameInverse5dof i f pose j6 = (Kin.frame i f).inverse5dof pose j6 ∧
    SrcWrap.frameInverseContinuing5dof i f pose prev = (Kin.frame i f).inverseContinuing5dof pose prev ∧
    SrcWrap.frameForward i f q = (Kin.frame i f).forward q ∧ SrcWrap.frameLinks i f q = (Kin.frame i f).links q ∧
    SrcWrap.frameForwardTransformed i f q prev = forwardTransformed i f q prev :=
  ⟨rfl, rfl, rfl, rfl, rfl, rfl, rfl⟩

theorem parallelogram_is_source (i : Kin R) (s : R) (d c : Nat) (pose : Iso R) (prev q : J6 R) (j6 : R) :
    SrcWrap.paraInverse i s d c pose = (Kin.para i s d c).inverse pose ∧
    SrcWrap.paraInverseContinuing i s d c pose prev = (Kin.para i s d c).inverseContinuing pose prev ∧
    SrcWrap.paraInverse5dof i s d c pose j6 = (Kin.para i s d c).inverse5dof pose j6 ∧
    SrcWrap.paraInverseContinuing5dof i s d c pose prev = (Kin.para i s d c).inverseContinuing5dof pose prev ∧
    SrcWrap.paraForward i s d c q = (Kin.para i s d c).forward q ∧ SrcWrap.paraLinks i s d c q = (Kin.para i s d c).links q :=
  ⟨rfl, rfl, rfl, rfl, rfl, rfl⟩

/-! ### Limits filter, entry points of the bare solver and one iteration of the shift loop (`Generated/SrcOpw.lean`,
`tools/rs2lean_opw.py`) -/

/-- [G] `Constraints::compliant` / `Constraints::filter` -/
theorem constraints_compliant_is_source (c : Constraints R) (a : J6 R) (l : List (J6 R)) :
    SrcOpw.compliantSrc c a = c.compliant a ∧ SrcOpw.filterSrc c l = c.filter l := by
  have h (a : J6 R) : SrcOpw.compliantSrc c a = c.compliant a := by
    have hr : List.range 6 = [0, 1, 2, 3, 4, 5] := rfl
    simp only [SrcOpw.compliantSrc, hr, List.all_cons, List.all_nil, Bool.and_true, Constraints.compliant,
      Bool.and_assoc]
    rfl
  exact ⟨h a, by simp only [SrcOpw.filterSrc, funext h, Constraints.filter]⟩

/-- `filter_constraints_compliant` -/
theorem filterCompliantSrc_eq (k : Opw R) (l : List (J6 R)) : SrcOpw.filterCompliantSrc k l = k.filterCompliant l := by
  unfold SrcOpw.filterCompliantSrc Opw.filterCompliant
  cases k.cons with
  | none => rfl
  | some c => exact (constraints_compliant_is_source c J6.zero l).2

/-- `constraints_compliant` -/
theorem compliantOptSrc_eq (k : Opw R) (s : J6 R) : SrcOpw.compliantOptSrc k s = k.compliant s := by
  unfold SrcOpw.compliantOptSrc Opw.compliant
  cases k.cons with
  | none => rfl
  | some c => exact (constraints_compliant_is_source c s []).1

theorem constraintCentersSrc_eq (k : Opw R) : SrcOpw.constraintCentersSrc k = k.constraintCenters := rfl

/-- `inverse_5dof` -/
theorem inverse5dofSrc_eq (k : Opw R) (pose : Iso R) (j6 : R) : SrcOpw.inverse5dofSrc k pose j6 = k.inverse5dof pose j6 := by
  simp only [SrcOpw.inverse5dofSrc, filterCompliantSrc_eq, Opw.inverse5dof]

/-- `inverse_continuing_5dof`: the sentinel resolves the reference vector only; J6 is `prev[5]` as given -/
theorem inverseContinuing5dofSrc_eq (k : Opw R) (pose : Iso R) (prev : J6 R) :
    SrcOpw.inverseContinuing5dofSrc k pose prev = k.inverseContinuing5dof pose prev := by
  simp only [SrcOpw.inverseContinuing5dofSrc, constraintCentersSrc_eq, filterCompliantSrc_eq, Opw.inverseContinuing5dof,
    Opw.reference]

/-- [G] the entry points of the bare solver are the model's: `inverse` (5-DOF
robots go to `inverse_5dof` with J6 = 0, the others filter `inverse_intern`), `inverse_5dof`, `inverse_continuing_5dof` (J6 is
`prev[5]` as given; the CONSTRAINT_CENTERED sentinel only resolves the reference vector; normalise next to the reference, then
sort, then filter) and `inverse_continuing` around its shift loop (5-DOF dispatch, sentinel, normalise, sort, filter); the limit
filter keeps, in order, the vectors whose six joints are all inside their arcs -/
theorem opw_entry_points_are_source (k : Opw R) (pose : Iso R) (prev s : J6 R) (j6 : R) (l : List (J6 R)) :
    SrcOpw.inverseSrc k pose = k.inverse pose ∧ SrcOpw.inverse5dofSrc k pose j6 = k.inverse5dof pose j6 ∧
    SrcOpw.inverseContinuing5dofSrc k pose prev = k.inverseContinuing5dof pose prev ∧
    SrcOpw.inverseContinuingSrc k pose prev = k.inverseContinuing pose prev ∧
    SrcOpw.filterCompliantSrc k l = k.filterCompliant l ∧ SrcOpw.compliantOptSrc k s = k.compliant s ∧
    SrcOpw.constraintCentersSrc k = k.constraintCenters := by
  refine ⟨?_, inverse5dofSrc_eq k pose j6, inverseContinuing5dofSrc_eq k pose prev, ?_, filterCompliantSrc_eq k l,
    compliantOptSrc_eq k s, rfl⟩
  · simp only [SrcOpw.inverseSrc, beq_iff_eq, inverse5dofSrc_eq, filterCompliantSrc_eq, Opw.inverse]
  · have hs : (SrcOpw.shiftsSrc : List (V3 R)) = shifts := rfl
    simp only [SrcOpw.inverseContinuingSrc, beq_iff_eq, inverseContinuing5dofSrc_eq, constraintCentersSrc_eq, hs,
      filterCompliantSrc_eq, Opw.inverseContinuing, Opw.inverseContinuing6, Opw.reference]

/-- [G] one iteration of the shift loop of `inverse_continuing` — the shift table, the
unshifted answers taken first, the first singular and finite raw answer only, the recovery block (translated statement by
statement, `singularCandidateSrc`) plugged in, pose check and limit check before the push, `break 'shifts` after it — is the
model's `shiftStep`, and the table is the model's `shifts`; with `opw_entry_points_are_source` the whole of
`inverse_continuing` is tied to the source (the loop over the table itself, `shiftLoop`, is the `for` of the source by
construction of the translator's idiom) -/
theorem shiftStep_is_source (k : Opw R) (pose : Iso R) (previous : J6 R) (sols : List (J6 R)) (d : V3 R) :
    SrcOpw.shiftStepSrc (fun prev raw => SrcCtl.singularCandidateSrc k.p prev raw) k pose previous sols d =
      shiftStep k pose previous sols d ∧ (SrcOpw.shiftsSrc : List (V3 R)) = shifts := by
  -- the candidate assembled from the translated recovery block is the model's `singularCandidate`
  have recovered (raw : J6 R) :
      ({ raw with j4 := (SrcCtl.singularCandidateSrc k.p previous raw).1, j5 := (SrcCtl.singularCandidateSrc k.p previous raw).2.1,
                  j6 := (SrcCtl.singularCandidateSrc k.p previous raw).2.2 } : J6 R) = singularCandidate k.p previous raw := by
    rw [(singularCandidate_is_source k.p previous raw).1]; rfl
  refine ⟨?_, rfl⟩
  unfold SrcOpw.shiftStepSrc shiftStep
  simp only [recovered, compliantOptSrc_eq]
  cases List.find? _ (inverseIntern k.p _) <;> rfl

/-! ### `Frame::frame`, the Jacobian column, the linear axes, `KinematicsWithShape` (`Generated/SrcFrame.lean`,
`SrcJac.lean`, `SrcWrap.lean`) -/

/-- [G] the FUNCTION `Frame::frame` (the wrapper `Frame` is tied by `frame_is_source` above) and `distances_match`,
translated expression by expression from the source (rejections in
order with their own errors — `ColinearPoints::new(.., true)` must carry the source triple, `false` the target triple —,
the two orthonormal bases, their product, the quaternion, the translation from the first pair of points), are the model's
`frameOf` / `distancesMatch` about which the C17 theorems are proved -/
theorem frame_is_source' (p1 p2 p3 q1 q2 q3 : V3 R) (tol : R) :
    SrcFrame.frameSrc p1 p2 p3 q1 q2 q3 = frameOf p1 p2 p3 q1 q2 q3 ∧
    SrcFrame.distancesMatchSrc p1 p2 p3 q1 q2 q3 tol = distancesMatch p1 p2 p3 q1 q2 q3 tol :=
  ⟨rfl, rfl⟩

/-- [G] one column of `compute_jacobian` (perturb joint `i` by epsilon, forward
kinematics of the robot handed in, position difference over epsilon, scaled axis of `perturbed * current⁻¹` over epsilon) and
the wrench `Jacobian::torques` reads from an isometry are the model's `jacobianColumn` / `wrenchOfIso`, about which the C15
theorems (geometric Jacobian, error bound, transpose law) are proved -/
theorem jacobian_is_source (fwd : J6 R → Iso R) (q : J6 R) (eps : R) (i : Nat) (w : Iso R) :
    SrcJac.jacobianColumnSrc fwd q eps i = ((jacobianColumn fwd q eps i).lin, (jacobianColumn fwd q eps i).ang) ∧
    SrcJac.wrenchOfIsoSrc w = ((wrenchOfIso w).lin, (wrenchOfIso w).ang) :=
  ⟨rfl, rfl⟩

/-- [G] `LinearAxis::forward` and `Gantry::forward`: base * cart translation * robot pose,
the translation along the axis named by the index (any other index panics: `none`) -/
theorem linearAxis_gantry_are_source (i : Kin R) (axis : Nat) (base : Iso R) (d : R) (tr : V3 R) (q : J6 R) :
    SrcWrap.linearAxisForwardSrc i axis base d q = linearAxisForward i axis base d q ∧
    SrcWrap.gantryForwardSrc i base tr q = gantryForward i base tr q := by
  refine ⟨?_, rfl⟩
  unfold SrcWrap.linearAxisForwardSrc linearAxisForward
  match axis with
  | 0 => rfl | 1 => rfl | 2 => rfl | _ + 3 => rfl

/-- [G] the joint limits and the singularity report of a tool / base / frame / parallelogram wrapper are those of the robot it wraps (the model's `Kin.constraints`, `Kin.singularity`) -/
theorem wrapper_reports_are_source (i : Kin R) (w : Iso R) (s : R) (d c : Nat) (q : J6 R) :
    SrcWrap.toolConstraints i w = (Kin.tool i w).constraints ∧ SrcWrap.toolSingularity i w q = (Kin.tool i w).singularity q ∧
    SrcWrap.baseConstraints i w = (Kin.base i w).constraints ∧ SrcWrap.baseSingularity i w q = (Kin.base i w).singularity q ∧
    SrcWrap.frameConstraints i w = (Kin.frame i w).constraints ∧ SrcWrap.frameSingularity i w q = (Kin.frame i w).singularity q ∧
    SrcWrap.paraConstraints i s d c = (Kin.para i s d c).constraints ∧
    SrcWrap.paraSingularity i s d c q = (Kin.para i s d c).singularity q :=
  ⟨rfl, rfl, rfl, rfl, rfl, rfl, rfl, rfl⟩

/-- [G] `KinematicsWithShape` is the model's `shape` node: each inverse entry point is
the same entry point of the wrapped stack followed by the order-preserving collision filter; forward, link poses, limits and
singularity are those of the wrapped stack -/
theorem shape_is_source (i : Kin R) (col : J6 R → Bool) (pose : Iso R) (prev q : J6 R) (j6 : R) (l : List (J6 R)) :
    SrcWrap.kwsRemoveCollisions col l = removeCollisions col l ∧
    SrcWrap.kwsInverse i col pose = (Kin.shape i col).inverse pose ∧
    SrcWrap.kwsInverseContinuing i col pose prev = (Kin.shape i col).inverseContinuing pose prev ∧
    SrcWrap.kwsInverse5dof i col pose j6 = (Kin.shape i col).inverse5dof pose j6 ∧
    SrcWrap.kwsInverseContinuing5dof i col pose prev = (Kin.shape i col).inverseContinuing5dof pose prev ∧
    SrcWrap.kwsForward i col q = (Kin.shape i col).forward q ∧ SrcWrap.kwsLinks i col q = (Kin.shape i col).links q ∧
    SrcWrap.kwsSingularity i col q = (Kin.shape i col).singularity q ∧
    SrcWrap.kwsConstraints i col = (Kin.shape i col).constraints :=
  ⟨rfl, rfl, rfl, rfl, rfl, rfl, rfl, rfl, rfl⟩

/-- [G] the facade methods `collides`, `collision_details`, `near`, `non_colliding_offsets` of `KinematicsWithShape` are the body's methods on the same arguments: no gating by the robot's own mode, no
re-ordering -/
theorem shape_facade_is_source {α α1 α2 β : Type} (f1 : α → β) (f2 : α → α1 → β) (f3 : α → α1 → α2 → β) (a : α) (b : α1) (c : α2) :
    SrcWrap.kwsCollides f1 a = f1 a ∧ SrcWrap.kwsCollisionDetails f1 a = f1 a ∧ SrcWrap.kwsNear f2 a b = f2 a b ∧
    SrcWrap.kwsNonCollidingOffsets f3 a b c = f3 a b c := ⟨rfl, rfl, rfl, rfl⟩

end

end Opw.Tie
