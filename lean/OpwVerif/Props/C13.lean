/-
  C13 — Joint-space planning (`path_plan/rrt_to.rs`, `dual_rrt_connect`; model `Rrt.lean`):
  whenever planning succeeds, the path begins with the start vector and ends with the goal vector
  exactly, every node in between is reported collision-free by the same predicate (the given start
  and goal are never tested, in `dual_rrt_connect` as in the model), consecutive nodes are at
  most three planner steps apart, and with non-wrapping limits (a box) every node is within limits.
  Cancellation: a flag that is up at the first iteration gives `cancelled` (`cancel`, `cancel_always`), and
  a path returned although the flag is up at iteration `j` was found within the first `j` tries
  (`path_before_stop`); a flag raised after the path was found changes nothing.

  Everything is proved for ALL collision predicates `isFree`, ALL sample streams, ALL cancellation
  histories `stop` and ALL nearest-neighbour functions that return an index of the tree
  (`ValidNearest`; `nearestIdx`, the one `dualRrtConnect` uses, is one).
  Theorems about an arbitrary number type `R` hold of the Float reading itself; those about `ℝ`
  (distances, the box) are about the model text evaluated in exact arithmetic.
-/
import OpwVerif.Lemmas.RrtInv
namespace Opw.C13
open Opw.RrtInv

section Generic
variable {R : Type} [OpwNum R]

set_option linter.unusedSectionVars false in
theorem treeInv_init (isFree : Cfg R → Bool) (root : Cfg R) (b : Bool) :
    TreeInv isFree root ⟨[⟨none, root⟩], b⟩ := TreeInv.init isFree root b

/-- `Tree::extend` keeps the invariant -/
theorem extendWith_treeInv {nearest : RTree R → Cfg R → Nat} (hn : ValidNearest nearest)
    {isFree : Cfg R → Bool} {root : Cfg R} {t : RTree R} (h : TreeInv isFree root t)
    (target : Cfg R) (ext : R) :
    TreeInv isFree root (extendWith nearest t target ext isFree).1 :=
  extendWith_inv (stepHyp_tree hn isFree ext (fun _ => root) (fun _ _ _ => rfl)) h trivial

/-- `Tree::connect` keeps the invariant (and the tag) -/
theorem connectWith_treeInv {nearest : RTree R → Cfg R → Nat} (hn : ValidNearest nearest)
    {isFree : Cfg R → Bool} {root : Cfg R} {t : RTree R} (h : TreeInv isFree root t)
    (fuel : Nat) (target : Cfg R) (ext : R) :
    TreeInv isFree root (connectWith nearest fuel t target ext isFree).1 ∧
      (connectWith nearest fuel t target ext isFree).1.isStart = t.isStart := by
  have H := stepHyp_tree hn isFree ext (fun _ => root) (fun _ _ _ => rfl)
  have := connectWith_spec H (target := target) trivial fuel t h _ _ rfl
  exact ⟨this.1, this.2.1⟩

theorem extendWith_index {nearest : RTree R → Cfg R → Nat}
    {isFree : Cfg R → Bool} {root : Cfg R} {t : RTree R} (h : TreeInv isFree root t)
    (target : Cfg R) (ext : R) {i : Nat}
    (hs : (extendWith nearest t target ext isFree).2 = .reached i ∨
      (extendWith nearest t target ext isFree).2 = .advanced i) :
    i = t.vertices.length ∧ 1 ≤ i ∧
      (extendWith nearest t target ext isFree).1 =
        push t (nearest t target) (extNew nearest t target ext) ∧
      isFree (extNew nearest t target ext) = true := by
  rw [extendWith_eq] at hs ⊢
  by_cases hf : isFree (extNew nearest t target ext) = true
  · rw [if_pos hf] at hs ⊢
    -- `reached` and `advanced` both carry the old length
    obtain rfl : i = t.vertices.length := by
      dsimp only at hs
      split at hs <;> rcases hs with hs | hs <;> cases hs <;> rfl
    exact ⟨rfl, h.length_pos, rfl, hf⟩
  · -- `trapped` is neither of the two alternatives of `hs`
    rw [if_neg hf] at hs
    rcases hs with hs | hs <;> cases hs

/-- the index reported by `connect` in `reached i` is the last vertex (≥ 1) -/
theorem connectWith_index {nearest : RTree R → Cfg R → Nat} (hn : ValidNearest nearest)
    {isFree : Cfg R → Bool} {root : Cfg R} {t : RTree R} (h : TreeInv isFree root t)
    (fuel : Nat) (target : Cfg R) (ext : R) {i : Nat}
    (hs : (connectWith nearest fuel t target ext isFree).2 = .reached i) :
    1 ≤ i ∧ i + 1 = (connectWith nearest fuel t target ext isFree).1.vertices.length := by
  have H := stepHyp_tree hn isFree ext (fun _ => root) (fun _ _ _ => rfl)
  have := (connectWith_spec H (target := target) trivial fuel t h _ _ rfl).2.2 i hs
  exact ⟨this.1, this.2.1⟩

set_option linter.unusedSectionVars false in
/-- `get_until_root` of a non-root vertex ends in the root; everything before it was accepted by
`isFree` (fuel ≥ index suffices) -/
theorem untilRoot_spec {isFree : Cfg R → Bool} {root : Cfg R} {t : RTree R}
    (h : TreeInv isFree root t) {fuel i : Nat} (h1 : 1 ≤ i) (h2 : i < t.vertices.length)
    (h3 : i ≤ fuel) :
    untilRoot t fuel i ≠ [] ∧ (untilRoot t fuel i).getLast? = some root ∧
      ∀ q ∈ (untilRoot t fuel i).dropLast,
        (∃ j, 1 ≤ j ∧ j < t.vertices.length ∧ q = t.get j) ∧ isFree q = true := by
  obtain ⟨l, hl, hmem⟩ := untilRoot_decomp h fuel i h1 h2 h3
  rw [hl]
  refine ⟨List.concat_ne_nil _ _, List.getLast?_concat, ?_⟩
  intro q hq
  rw [List.dropLast_concat] at hq
  obtain ⟨j, j1, j2, rfl⟩ := hmem q hq
  exact ⟨⟨j, j1, j2, rfl⟩, h.free j j1 j2⟩

/-- main-loop level of `path_shape`: any valid `nearest`, the two trees in either order -/
theorem path_shape_with {nearest : RTree R → Cfg R → Nat} (hn : ValidNearest nearest)
    {isFree : Cfg R → Bool} {ext : R} {stop : Nat → Bool} {start goal : Cfg R}
    {n i : Nat} {samples : List (Cfg R)} {ta tb : RTree R} {p : List (Cfg R)}
    (ha : TreeInv isFree (rootOf start goal ta) ta) (hb : TreeInv isFree (rootOf start goal tb) tb)
    (htag : ta.isStart = !tb.isStart)
    (h : dualRrtWith nearest isFree ext stop n i samples ta tb = .path p) :
    ∃ mid, p = start :: mid ++ [goal] ∧ ∀ q ∈ mid, isFree q = true := by
  have H := stepHyp_tree hn isFree ext (rootOf start goal) (fun _ _ _ => rfl)
  obtain ⟨ta', tb', ni, ri, ia, ib, tags, n1, n2, r1, r2, -, rfl⟩ :=
    dualRrtWith_path (stop := stop) H n i samples ta tb p (fun _ _ => trivial) ha hb h
  -- the two final trees carry the tags of the initial ones, which differ
  have htag' : ta'.isStart = !tb'.isStart := by
    rcases tags with ⟨e1, e2⟩ | ⟨e1, e2⟩
    · rw [e1, e2]; exact htag
    · rw [e1, e2, htag, Bool.not_not]
  exact joinPath_shape ia ib htag' n1 n2 r1 r2

/-- `dual_rrt_connect`: a returned path is `start :: mid ++ [goal]`, every element of `mid`
accepted by `isFree`. -/
theorem path_shape {start goal : Cfg R} {isFree : Cfg R → Bool} {samples : List (Cfg R)} {ext : R}
    {maxTry : Nat} {stop : Nat → Bool} {p : List (Cfg R)}
    (h : dualRrtConnect start goal isFree samples ext maxTry stop = .path p) :
    ∃ mid, p = start :: mid ++ [goal] ∧ ∀ q ∈ mid, isFree q = true :=
  path_shape_with nearestIdx_valid (TreeInv.init_start isFree start goal)
    (TreeInv.init_goal isFree start goal) rfl h

/-- the path begins with the start vector and ends with the goal vector exactly -/
theorem path_endpoints {start goal : Cfg R} {isFree : Cfg R → Bool} {samples : List (Cfg R)}
    {ext : R} {maxTry : Nat} {stop : Nat → Bool} {p : List (Cfg R)}
    (h : dualRrtConnect start goal isFree samples ext maxTry stop = .path p) :
    p.head? = some start ∧ p.getLast? = some goal := by
  obtain ⟨mid, rfl, -⟩ := path_shape h
  exact ⟨rfl, List.getLast?_concat⟩

/-- the same in the other parity of the tree swap (the trees handed over in the order
goal-tree, start-tree): the `isStart` tag, not the argument position, decides the orientation -/
theorem path_endpoints_swapped {nearest : RTree R → Cfg R → Nat} (hn : ValidNearest nearest)
    {start goal : Cfg R} {isFree : Cfg R → Bool} {samples : List (Cfg R)} {ext : R}
    {n i : Nat} {stop : Nat → Bool} {p : List (Cfg R)}
    (h : dualRrtWith nearest isFree ext stop n i samples ⟨[⟨none, goal⟩], false⟩
      ⟨[⟨none, start⟩], true⟩ = .path p) :
    p.head? = some start ∧ p.getLast? = some goal := by
  obtain ⟨mid, rfl, -⟩ := path_shape_with hn (TreeInv.init_goal isFree start goal)
    (TreeInv.init_start isFree start goal) rfl h
  exact ⟨rfl, List.getLast?_concat⟩

/-- every node of the path other than the first and the last is reported collision-free -/
theorem path_free {start goal : Cfg R} {isFree : Cfg R → Bool} {samples : List (Cfg R)} {ext : R}
    {maxTry : Nat} {stop : Nat → Bool} {p : List (Cfg R)}
    (h : dualRrtConnect start goal isFree samples ext maxTry stop = .path p)
    (k : Nat) (h1 : 0 < k) (h2 : k + 1 < p.length) : isFree (p[k]'(by omega)) = true := by
  obtain ⟨mid, rfl, hfree⟩ := path_shape h
  obtain ⟨m, rfl⟩ : ∃ m, k = m + 1 := ⟨k - 1, (Nat.sub_add_cancel h1).symm⟩
  have hlen : m < mid.length := by
    rw [List.length_append, List.length_cons, List.length_singleton] at h2
    exact Nat.lt_of_succ_lt_succ (Nat.lt_of_succ_lt_succ h2)
  rw [List.getElem_append_left (Nat.succ_lt_succ hlen), List.getElem_cons_succ]
  exact hfree _ (List.getElem_mem hlen)

theorem path_length {start goal : Cfg R} {isFree : Cfg R → Bool} {samples : List (Cfg R)} {ext : R}
    {maxTry : Nat} {stop : Nat → Bool} {p : List (Cfg R)}
    (h : dualRrtConnect start goal isFree samples ext maxTry stop = .path p) : 2 ≤ p.length := by
  obtain ⟨mid, rfl, -⟩ := path_shape h
  rw [List.length_append, List.length_cons, List.length_singleton]
  exact Nat.le_add_left 2 mid.length

/-- the flag raised before the first iteration: `cancelled` -/
theorem cancel (start goal : Cfg R) (isFree : Cfg R → Bool) (samples : List (Cfg R)) (ext : R)
    (maxTry : Nat) (stop : Nat → Bool) (h0 : stop 0 = true) (hm : 0 < maxTry) :
    dualRrtConnect start goal isFree samples ext maxTry stop = .cancelled := by
  obtain ⟨m, rfl⟩ : ∃ m, maxTry = m + 1 := ⟨maxTry - 1, (Nat.sub_add_cancel hm).symm⟩
  exact dualRrtWith_stop _ _ _ _ m 0 samples _ _ h0

/-- the flag always raised: `cancelled`, unless no try was allowed at all -/
theorem cancel_always (start goal : Cfg R) (isFree : Cfg R → Bool) (samples : List (Cfg R)) (ext : R)
    (maxTry : Nat) (stop : Nat → Bool) (h : ∀ i, stop i = true) :
    dualRrtConnect start goal isFree samples ext maxTry stop = .cancelled ∨
      (maxTry = 0 ∧ dualRrtConnect start goal isFree samples ext maxTry stop = .failed) := by
  by_cases hm : maxTry = 0
  · right; subst hm; exact ⟨rfl, dualRrtWith.eq_1 ..⟩
  · left; exact cancel _ _ _ _ _ _ _ (h 0) (Nat.pos_of_ne_zero hm)

/-- main-loop level of `path_before_stop`: no iteration at which the flag was up has been started -/
theorem path_before_stop_with (nearest : RTree R → Cfg R → Nat) (isFree : Cfg R → Bool) (ext : R)
    (stop : Nat → Bool) (n i : Nat) (samples : List (Cfg R)) (ta tb : RTree R) (p : List (Cfg R))
    (j : Nat) (hij : i ≤ j) (hj : stop j = true)
    (h : dualRrtWith nearest isFree ext stop n i samples ta tb = .path p) :
    dualRrtWith nearest isFree ext stop (j - i) i samples ta tb = .path p :=
  dualRrtWith_path_of_stop_add nearest isFree ext stop n i samples ta tb p (j - i)
    (by rwa [Nat.add_sub_cancel' hij]) h

/-- `dual_rrt_connect`: a path returned although the flag is up at iteration `j` was found
within the first `j` tries. -/
theorem path_before_stop (start goal : Cfg R) (isFree : Cfg R → Bool) (samples : List (Cfg R))
    (ext : R) (maxTry : Nat) (stop : Nat → Bool) (p : List (Cfg R)) (j : Nat) (hj : stop j = true)
    (h : dualRrtConnect start goal isFree samples ext maxTry stop = .path p) :
    dualRrtConnect start goal isFree samples ext j stop = .path p :=
  path_before_stop_with _ _ _ _ _ _ _ _ _ p j (Nat.zero_le j) hj h

/-- a path is only returned if the flag was down at the first iteration -/
theorem path_stop_false (start goal : Cfg R) (isFree : Cfg R → Bool) (samples : List (Cfg R))
    (ext : R) (maxTry : Nat) (stop : Nat → Bool) (p : List (Cfg R))
    (h : dualRrtConnect start goal isFree samples ext maxTry stop = .path p) : stop 0 = false := by
  by_cases h0 : stop 0 = true
  · have := path_before_stop start goal isFree samples ext maxTry stop p 0 h0 h
    unfold dualRrtConnect at this
    rw [dualRrtWith.eq_1] at this
    cases this
  · simpa using h0

end Generic

section RealPart

/-- at `ℝ` the model's `cfgDist` is the Euclidean distance (over the common prefix of the two
lists; `sumSq (x :: a) (y :: b) = (x - y) ^ 2 + sumSq a b`) -/
theorem cfgDist_euclid (a b : List ℝ) : cfgDist a b = Real.sqrt (sumSq a b) := cfgDist_eq a b

theorem cfgDist_six (a1 a2 a3 a4 a5 a6 b1 b2 b3 b4 b5 b6 : ℝ) :
    cfgDist [a1, a2, a3, a4, a5, a6] [b1, b2, b3, b4, b5, b6] =
      Real.sqrt ((a1 - b1) ^ 2 + (a2 - b2) ^ 2 + (a3 - b3) ^ 2 + (a4 - b4) ^ 2 + (a5 - b5) ^ 2 +
        (a6 - b6) ^ 2) := by
  rw [cfgDist_eq]; simp only [sumSq, add_zero, ← add_assoc]

theorem cfgDist_triangle (a b c : List ℝ) (hab : a.length = b.length) (hbc : b.length = c.length) :
    cfgDist a c ≤ cfgDist a b + cfgDist b c := RrtInv.cfgDist_triangle a b c hab hbc

/-- the configuration `extend` tries to add is at most `ext` away from the nearest vertex, which
becomes its parent -/
theorem extend_edge_le (nearest : RTree ℝ → Cfg ℝ → Nat) (t : RTree ℝ) (target : Cfg ℝ) {ext : ℝ}
    (hext : 0 < ext) : cfgDist (t.get (nearest t target)) (extNew nearest t target ext) ≤ ext :=
  extNew_edge nearest t target ext hext

/-- the same, read off the result of `extend` -/
theorem extendWith_edge_le {nearest : RTree ℝ → Cfg ℝ → Nat} (hn : ValidNearest nearest)
    {isFree : Cfg ℝ → Bool} {root : Cfg ℝ} {t : RTree ℝ} (h : TreeInv isFree root t)
    (target : Cfg ℝ) {ext : ℝ} (hext : 0 < ext) {i : Nat}
    (hs : (extendWith nearest t target ext isFree).2 = .reached i ∨
      (extendWith nearest t target ext isFree).2 = .advanced i) :
    ∃ pi, parentOf (extendWith nearest t target ext isFree).1 i = some pi ∧ pi < i ∧
      cfgDist ((extendWith nearest t target ext isFree).1.get pi)
        ((extendWith nearest t target ext isFree).1.get i) ≤ ext := by
  obtain ⟨rfl, -, e, -⟩ := extendWith_index h target ext hs
  have hv := hn t target h.nonempty
  rw [e, get_push_last]
  refine ⟨nearest t target, parentOf_push_last _ _ _, hv, ?_⟩
  rw [get_push_lt _ _ _ hv]
  exact extNew_edge nearest t target ext hext

/-- `extend` keeps "every edge is at most `ext` long" -/
theorem extendWith_edgeInv {nearest : RTree ℝ → Cfg ℝ → Nat} (hn : ValidNearest nearest)
    {isFree : Cfg ℝ → Bool} {root : Cfg ℝ} {t : RTree ℝ} (h : TreeInv isFree root t)
    {ext : ℝ} (hext : 0 < ext) (he : EdgeInv ext t) (target : Cfg ℝ) :
    EdgeInv ext (extendWith nearest t target ext isFree).1 := by
  rw [extendWith_eq]
  by_cases hf : isFree (extNew nearest t target ext) = true
  · rw [if_pos hf]
    exact EdgeInv.push h he (hn t target h.nonempty) (extNew_edge nearest t target ext hext)
  · rw [if_neg hf]; exact he

/-- `connect` keeps tree invariant, joint count and edge bound -/
theorem connectWith_gapInv {nearest : RTree ℝ → Cfg ℝ → Nat} (hn : ValidNearest nearest)
    {isFree : Cfg ℝ → Bool} {root : Cfg ℝ} {t : RTree ℝ} {ext : ℝ} (hext : 0 < ext) {n : Nat}
    (h : TreeInv isFree root t ∧ DimInv n t ∧ EdgeInv ext t) (fuel : Nat) {target : Cfg ℝ}
    (ht : target.length = n) :
    TreeInv isFree root (connectWith nearest fuel t target ext isFree).1 ∧
      DimInv n (connectWith nearest fuel t target ext isFree).1 ∧
      EdgeInv ext (connectWith nearest fuel t target ext isFree).1 :=
  (connectWith_spec (stepHyp_gap hn isFree hext n (fun _ => root) (fun _ _ _ => rfl))
    (target := target) ht fuel t h _ _ rfl).1

/-- main-loop level: consecutive nodes of a returned path are at most `3 * ext` apart
(parent of the new vertex → new vertex → reaching vertex → its parent at the junction, one edge
elsewhere), provided all configurations have the same number `n` of joints. -/
theorem path_gap_with {nearest : RTree ℝ → Cfg ℝ → Nat} (hn : ValidNearest nearest)
    {isFree : Cfg ℝ → Bool} {ext : ℝ} (hext : 0 < ext) {stop : Nat → Bool} {start goal : Cfg ℝ}
    {dim n i : Nat} {samples : List (Cfg ℝ)} {ta tb : RTree ℝ} {p : List (Cfg ℝ)}
    (ha : TreeInv isFree (rootOf start goal ta) ta ∧ DimInv dim ta ∧ EdgeInv ext ta)
    (hb : TreeInv isFree (rootOf start goal tb) tb ∧ DimInv dim tb ∧ EdgeInv ext tb)
    (hs : ∀ q ∈ samples, q.length = dim)
    (h : dualRrtWith nearest isFree ext stop n i samples ta tb = .path p) :
    List.IsChain (fun a b => cfgDist a b ≤ 3 * ext) p := by
  have H := stepHyp_gap hn isFree hext dim (rootOf start goal) (fun _ _ _ => rfl)
  obtain ⟨ta', tb', ni, ri, ia, ib, -, n1, n2, r1, r2, hj, rfl⟩ :=
    dualRrtWith_path (stop := stop) H n i samples ta tb p hs ha hb h
  exact join_chain hext ia.1 ib.1 ia.2.2 ib.2.2 ia.2.1 ib.2.1 (Nat.lt_of_succ_le n2.le)
    (Nat.lt_of_succ_le r2.le) hj

/-- `dual_rrt_connect`: consecutive nodes of a returned path are at most three planner steps
apart -/
theorem path_gap {start goal : Cfg ℝ} {isFree : Cfg ℝ → Bool} {samples : List (Cfg ℝ)} {ext : ℝ}
    {maxTry : Nat} {stop : Nat → Bool} {p : List (Cfg ℝ)} {dim : Nat} (hext : 0 < ext)
    (hstart : start.length = dim) (hgoal : goal.length = dim)
    (hs : ∀ q ∈ samples, q.length = dim)
    (h : dualRrtConnect start goal isFree samples ext maxTry stop = .path p)
    (k : Nat) (hk : k + 1 < p.length) : cfgDist (p[k]'(by omega)) p[k + 1] ≤ 3 * ext := by
  have hc : List.IsChain (fun a b => cfgDist a b ≤ 3 * ext) p :=
    path_gap_with RrtInv.nearestIdx_valid hext
      ⟨TreeInv.init_start isFree start goal, AllV.init _ start true hstart, EdgeInv.init ext start true⟩
      ⟨TreeInv.init_goal isFree start goal, AllV.init _ goal false hgoal, EdgeInv.init ext goal false⟩
      hs h
  exact List.isChain_iff_getElem.mp hc k hk

theorem inBox_getElem {lo hi q : List ℝ} (h : InBox lo hi q) :
    lo.length = q.length ∧ hi.length = q.length ∧
      ∀ (k : Nat) (hk : k < q.length), lo[k]'(by rw [h.1.length_eq]; exact hk) ≤ q[k] ∧
        q[k] ≤ hi[k]'(by rw [← h.2.length_eq]; exact hk) := by
  refine ⟨h.1.length_eq, h.2.length_eq.symm, fun k hk => ⟨?_, ?_⟩⟩
  · exact (List.forall₂_iff_get.mp h.1).2 k (by rw [h.1.length_eq]; exact hk) hk
  · exact (List.forall₂_iff_get.mp h.2).2 k hk (by rw [← h.2.length_eq]; exact hk)

/-- `extend` keeps "every vertex lies in the box" when the target lies in the box -/
theorem extendWith_box {nearest : RTree ℝ → Cfg ℝ → Nat} (hn : ValidNearest nearest)
    {isFree : Cfg ℝ → Bool} {root : Cfg ℝ} {t : RTree ℝ} (h : TreeInv isFree root t)
    {ext : ℝ} (hext : 0 < ext) {lo hi : List ℝ} (hb : AllV (InBox lo hi) t) {target : Cfg ℝ}
    (ht : InBox lo hi target) : AllV (InBox lo hi) (extendWith nearest t target ext isFree).1 :=
  (extendWith_inv (stepHyp_box hn isFree hext lo hi (fun _ => root) (fun _ _ _ => rfl))
    (t := t) ⟨h, hb⟩ ht).2

/-- `connect` keeps "every vertex lies in the box" when the target lies in the box -/
theorem connectWith_box {nearest : RTree ℝ → Cfg ℝ → Nat} (hn : ValidNearest nearest)
    {isFree : Cfg ℝ → Bool} {root : Cfg ℝ} {t : RTree ℝ} (h : TreeInv isFree root t)
    {ext : ℝ} (hext : 0 < ext) {lo hi : List ℝ} (hb : AllV (InBox lo hi) t) (fuel : Nat)
    {target : Cfg ℝ} (ht : InBox lo hi target) :
    AllV (InBox lo hi) (connectWith nearest fuel t target ext isFree).1 :=
  (connectWith_spec (stepHyp_box hn isFree hext lo hi (fun _ => root) (fun _ _ _ => rfl))
    (target := target) ht fuel t ⟨h, hb⟩ _ _ rfl).1.2

/-- main-loop level of `path_in_box` -/
theorem path_in_box_with {nearest : RTree ℝ → Cfg ℝ → Nat} (hn : ValidNearest nearest)
    {isFree : Cfg ℝ → Bool} {ext : ℝ} (hext : 0 < ext) {stop : Nat → Bool} {start goal : Cfg ℝ}
    {lo hi : List ℝ} {n i : Nat} {samples : List (Cfg ℝ)} {ta tb : RTree ℝ} {p : List (Cfg ℝ)}
    (ha : TreeInv isFree (rootOf start goal ta) ta ∧ AllV (InBox lo hi) ta)
    (hb : TreeInv isFree (rootOf start goal tb) tb ∧ AllV (InBox lo hi) tb)
    (hs : ∀ q ∈ samples, InBox lo hi q)
    (h : dualRrtWith nearest isFree ext stop n i samples ta tb = .path p) :
    ∀ q ∈ p, InBox lo hi q := by
  have H := stepHyp_box hn isFree hext lo hi (rootOf start goal) (fun _ _ _ => rfl)
  obtain ⟨ta', tb', ni, ri, ia, ib, -, n1, n2, r1, r2, -, rfl⟩ :=
    dualRrtWith_path (stop := stop) H n i samples ta tb p hs ha hb h
  exact joinPath_forall ia.1 ib.1 ia.2 ib.2 n1 n2 r1 r2

/-- `dual_rrt_connect`: with start, goal and all samples within the (non-wrapping) limits,
every node of a returned path is within the limits -/
theorem path_in_box {start goal : Cfg ℝ} {isFree : Cfg ℝ → Bool} {samples : List (Cfg ℝ)} {ext : ℝ}
    {maxTry : Nat} {stop : Nat → Bool} {p : List (Cfg ℝ)} {lo hi : List ℝ} (hext : 0 < ext)
    (hstart : InBox lo hi start) (hgoal : InBox lo hi goal) (hs : ∀ q ∈ samples, InBox lo hi q)
    (h : dualRrtConnect start goal isFree samples ext maxTry stop = .path p) :
    ∀ q ∈ p, InBox lo hi q :=
  path_in_box_with RrtInv.nearestIdx_valid hext
    ⟨TreeInv.init_start isFree start goal, AllV.init _ start true hstart⟩
    ⟨TreeInv.init_goal isFree start goal, AllV.init _ goal false hgoal⟩ hs h

/-- the hypotheses of the invariant lemmas are satisfiable: the initial trees -/
example (isFree : Cfg ℝ → Bool) (start goal : Cfg ℝ) :
    TreeInv isFree start ⟨[⟨none, start⟩], true⟩ ∧ TreeInv isFree goal ⟨[⟨none, goal⟩], false⟩ :=
  ⟨TreeInv.init _ _ _, TreeInv.init _ _ _⟩

private theorem nearest_single (r : Cfg ℝ) (b : Bool) (q : Cfg ℝ) :
    nearestIdx (R := ℝ) ⟨[⟨none, r⟩], b⟩ q = 0 := rfl

private theorem extNew_close (r q : Cfg ℝ) (b : Bool) (ext : ℝ) (h : cfgDist q r < ext) :
    extNew nearestIdx (⟨[⟨none, r⟩], b⟩ : RTree ℝ) q ext = q := by
  rw [extNew_real, nearest_single]
  exact if_pos h

/-- a concrete successful run (one joint, nothing collides, start `[0]`, goal `[1]`, step 2,
one sample `[1]`): the planner does return a path, and it is `[start, goal]`. -/
example : dualRrtConnect (R := ℝ) [0] [1] (fun _ => true) [[1]] 2 1 (fun _ => false) =
    .path [[0], [1]] := by
  have d1 : cfgDist ([1] : Cfg ℝ) [0] < 2 := by
    rw [cfgDist_eq]; simp [sumSq]
  have d2 : cfgDist ([1] : Cfg ℝ) [1] < 2 := by
    rw [cfgDist_self]; norm_num
  have e1 := extNew_close [0] [1] true 2 d1
  have e2 := extNew_close [1] [1] false 2 d2
  have hc : connectWith nearestIdx connectFuel (⟨[⟨none, [1]⟩], false⟩ : RTree ℝ) [1] 2
      (fun _ => true) = (push ⟨[⟨none, [1]⟩], false⟩ 0 [1], .reached 1) := by
    show connectWith nearestIdx (999999 + 1) _ _ _ _ = _
    rw [connectWith_succ, e2, nearest_single, if_pos rfl, if_pos d2]
    rfl
  unfold dualRrtConnect
  rw [dualRrtWith_succ nearestIdx _ _ _ 0 0 [[1]] _ _ rfl]
  simp only [loopBody, hc, e1, nearest_single, if_true]
  rfl

/-- the same input with the flag raised: `cancelled` -/
example : dualRrtConnect (R := ℝ) [0] [1] (fun _ => true) [[1]] 2 1 (fun _ => true) = .cancelled :=
  cancel _ _ _ _ _ _ _ rfl (by norm_num)

end RealPart

end Opw.C13
