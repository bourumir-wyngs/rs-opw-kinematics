/-
  C15 — Jacobian (`jacobian.rs`): the numeric Jacobian is built column by column from finite
  differences of the forward pose; torques are the transpose applied to the wrench, and the
  isometry- and vector-based entry points agree.  [G] theorems give the structure of
  `compute_jacobian`, `torques` and the 6-vector extraction (definitional); [R] theorems say that
  `torquesFromVector` is the transpose of the linear map `jacMulVec`, and give the geometric content
  of column 1 written out with `Rz` (every joint: C15b).
-/
import OpwVerif.Lemmas.JacCols
namespace Opw.C15
open Opw.MiscReal

section
open scoped GenericNum

/-- the isometry-based entry point `torques(iso)`, modelled HERE (it is in no model file and no check runs it): the
vector entry point on the wrench read off the isometry, which is what `Tie.jacobian_is_source` ties `wrenchOfIso` to -/
def torquesFromIso {R : Type} [OpwNum R] (jac : List (Col R)) (iso : Iso R) : List R :=
  torquesFromVector jac (wrenchOfIso iso)

/-- [G] `self.matrix.transpose() * F`: one torque per column -/
theorem torques_transpose {R : Type} [OpwNum R] (jac : List (Col R)) (f : Col R) :
    torquesFromVector jac f = jac.map (fun c => V3.dot c.lin f.lin + V3.dot c.ang f.ang) ∧
    (torquesFromVector jac f).length = jac.length ∧
    ∀ i : Nat, (torquesFromVector jac f)[i]? =
      (jac[i]?).map (fun c => V3.dot c.lin f.lin + V3.dot c.ang f.ang) :=
  ⟨rfl, List.length_map _, fun _ => List.getElem?_map⟩

/-- [G] the isometry entry point is the vector entry point on the extracted 6-vector … -/
theorem torques_iso_eq_vector {R : Type} [OpwNum R] (jac : List (Col R)) (iso : Iso R) :
    torquesFromIso jac iso = torquesFromVector jac (wrenchOfIso iso) := rfl

/-- [G] … and the extracted 6-vector is (translation, scaled axis of the rotation) -/
theorem wrenchOfIso_def {R : Type} [OpwNum R] (iso : Iso R) :
    (wrenchOfIso iso).lin = iso.t ∧ (wrenchOfIso iso).ang = iso.q.scaledAxis := ⟨rfl, rfl⟩

/-- [G] entry `i` of `torques(iso)` -/
theorem torques_iso_entry {R : Type} [OpwNum R] (jac : List (Col R)) (iso : Iso R) (i : Nat) :
    (torquesFromIso jac iso)[i]? =
      (jac[i]?).map (fun c => V3.dot c.lin iso.t + V3.dot c.ang iso.q.scaledAxis) :=
  (torques_transpose jac (wrenchOfIso iso)).2.2 i

end

/-- [R] transpose property (virtual work) -/
theorem torques_virtual_work (jac : List (Col ℝ)) (f : Col ℝ) (x : List ℝ) :
    listDot (torquesFromVector jac f) x = Col.dot f (jacMulVec jac x) := by
  induction jac generalizing x with
  | nil => rw [jacMulVec_nil_left, Col.dot_zero]; rfl
  | cons c cs ih =>
    cases x with
    | nil => rw [jacMulVec_nil_right, Col.dot_zero, listDot, List.zipWith_nil_right]; rfl
    | cons a xs =>
      have ih' := ih xs
      rw [jacMulVec_cons]
      simp only [torquesFromVector, List.map_cons, listDot, List.zipWith_cons_cons, List.sum_cons] at ih' ⊢
      rw [ih']
      simp only [Col.dot, Col.add, Col.scale, V3.dot, V3.add, V3.scale]
      ring

/-- [G] column `i` of `compute_jacobian`, the definition written out (both parts hold by `rfl`; no
linearity is claimed, "linear" is the linear-velocity part) -/
theorem jacobian_column_linear {R : Type} [OpwNum R] (fwd : J6 R → Iso R) (q : J6 R) (eps : R) (i : Nat) :
    (jacobianColumn fwd q eps i).lin =
      ((fwd (q.set i (q.get i + eps))).t.sub (fwd q).t).divs eps ∧
    (jacobianColumn fwd q eps i).ang =
      (((fwd (q.set i (q.get i + eps))).q.mul (fwd q).q.conj).scaledAxis).divs eps := ⟨rfl, rfl⟩

/-- [G] `compute_jacobian` has the six columns `0 … 5` -/
theorem computeJacobian_columns {R : Type} [OpwNum R] (fwd : J6 R → Iso R) (q : J6 R) (eps : R) :
    (computeJacobian fwd q eps).length = 6 ∧
    ∀ i : Nat, i < 6 → (computeJacobian fwd q eps)[i]? = some (jacobianColumn fwd q eps i) := by
  refine ⟨rfl, fun i hi => ?_⟩
  rcases JacCols.six_cases hi with rfl | rfl | rfl | rfl | rfl | rfl <;> rfl

/-- [G] `J x` for six columns, accumulated from zero -/
theorem jacMulVec_six {R : Type} [OpwNum R] (c0 c1 c2 c3 c4 c5 : Col R) (x0 x1 x2 x3 x4 x5 : R) :
    (jacMulVec [c0, c1, c2, c3, c4, c5] [x0, x1, x2, x3, x4, x5]).lin =
      ((((((V3.zero.add (c0.lin.scale x0)).add (c1.lin.scale x1)).add (c2.lin.scale x2)).add
        (c3.lin.scale x3)).add (c4.lin.scale x4)).add (c5.lin.scale x5)) ∧
    (jacMulVec [c0, c1, c2, c3, c4, c5] [x0, x1, x2, x3, x4, x5]).ang =
      ((((((V3.zero.add (c0.ang.scale x0)).add (c1.ang.scale x1)).add (c2.ang.scale x2)).add
        (c3.ang.scale x3)).add (c4.ang.scale x4)).add (c5.ang.scale x5)) := by
  simp only [jacMulVec, List.zip_cons_cons, List.zip_nil_right, List.foldl_cons, List.foldl_nil,
    and_self]

/-- [R] `J x` is additive (for vectors of equal length) … -/
theorem jacMulVec_add (jac : List (Col ℝ)) (x y : List ℝ) (h : x.length = y.length) :
    jacMulVec jac (List.zipWith (· + ·) x y) = (jacMulVec jac x).add (jacMulVec jac y) := by
  induction jac generalizing x y with
  | nil => simp only [jacMulVec_nil_left, Col.add_zero]
  | cons c cs ih =>
    cases x with
    | nil =>
      cases y with
      | nil => simp only [List.zipWith_nil_left, jacMulVec_nil_right, Col.add_zero]
      | cons b ys => cases h
    | cons a xs =>
      cases y with
      | nil => cases h
      | cons b ys =>
        have h' : xs.length = ys.length := Nat.succ.inj h
        rw [List.zipWith_cons_cons, jacMulVec_cons, jacMulVec_cons, jacMulVec_cons, ih xs ys h']
        simp only [Col.add, Col.scale, V3.add, V3.scale]
        apply Col.ext' <;> apply V3.ext' <;> ring

/-- [R] … and homogeneous -/
theorem jacMulVec_smul (jac : List (Col ℝ)) (k : ℝ) (x : List ℝ) :
    jacMulVec jac (x.map (k * ·)) = (jacMulVec jac x).scale k := by
  induction jac generalizing x with
  | nil => rw [jacMulVec_nil_left, jacMulVec_nil_left, Col.zero_scale]
  | cons c cs ih =>
    cases x with
    | nil => rw [List.map_nil, jacMulVec_nil_right, Col.zero_scale]
    | cons a xs =>
      rw [List.map_cons, jacMulVec_cons, jacMulVec_cons, ih xs]
      simp only [Col.add, Col.scale, V3.add, V3.scale]
      apply Col.ext' <;> apply V3.ext' <;> ring

/-- [R] `J eᵢ` picks column `i` (shown for the first unit vector) -/
theorem jacMulVec_e0 (c0 c1 c2 c3 c4 c5 : Col ℝ) :
    jacMulVec [c0, c1, c2, c3, c4, c5] [1, 0, 0, 0, 0, 0] = c0 := by
  simp only [jacMulVec, List.zip_cons_cons, List.zip_nil_right, List.foldl_cons, List.foldl_nil,
    V3.add, V3.scale, V3.zero, lit0, mul_zero, mul_one, add_zero, zero_add]

/-- [R] θ-space: adding `ε` to θ₁ rotates the tool frame about the world z axis by `ε` -/
theorem perturb_joint1_is_rotation (p : Params ℝ) (q : J6 ℝ) (e : ℝ) :
    rot6 (q.set 0 (q.get 0 + e)) = (M3.rz (Real.sin e) (Real.cos e)).mul (rot6 q) ∧
    org6 p (q.set 0 (q.get 0 + e)) = (M3.rz (Real.sin e) (Real.cos e)).mulVec (org6 p q) ∧
    forwardTheta p (q.set 0 (q.get 0 + e)) =
      ((M3.rz (Real.sin e) (Real.cos e)).mul (forwardTheta p q).1,
       (M3.rz (Real.sin e) (Real.cos e)).mulVec (forwardTheta p q).2) := by
  -- joint 1 of the all-joints lemma: `E₁(ε) = Rz(ε)`, and the centre `(0,0,c₁)` lies on the z axis
  obtain ⟨h1, h2⟩ := JacCols.moved_tool p q (i := 0) (by norm_num) e
  rw [show JacCols.jointRot q 0 e = M3.rz (Real.sin e) (Real.cos e) from
    JacCols.conj_one_left _] at h1 h2
  have h2' : org6 p (q.set 0 (q.get 0 + e)) =
      (M3.rz (Real.sin e) (Real.cos e)).mulVec (org6 p q) := by
    rw [h2]
    simp only [JacCols.linkOrg, org1, M3.mulVec, M3.rz, V3.add, V3.sub, lit0, lit1]
    apply V3.ext' <;> ring
  refine ⟨h1, h2', ?_⟩
  ext
  · rw [forwardTheta_rot, forwardTheta_rot]; exact h1
  · rw [forwardTheta_tr, forwardTheta_tr]; exact h2'

/-- [R] the angular part of column 1 is exactly `sign₁ · ẑ`, the geometric axis of joint 1, for every
step with `ε ≠ 0`, `|ε · sign₁| < π`; no limit is needed -/
theorem jacobian_column1_angular (p : Params ℝ) (j : J6 ℝ) (e : ℝ) (he : e ≠ 0)
    (hs : |e * p.signs.j1| < Real.pi) :
    (jacobianColumn (forward p) j e 0).ang = ⟨0, 0, p.signs.j1⟩ := by
  rw [(JacCols.forward_revolute p j (i := 0) (by norm_num)).ang he hs,
    show JacCols.worldAxis (thetaOf p j) 0 = JacCols.ez from M3.one_mulVec _]
  simp only [V3.scale, JacCols.ez, J6.get]
  apply V3.ext' <;> ring

/-- [R] for `sign₁ = 1` the linear part of column 1 converges, as `ε → 0`, to `ẑ × t`, the geometric
column of a revolute joint about `ẑ` through the origin (`t` the tool position) -/
theorem jacobian_column1_tendsto (p : Params ℝ) (j : J6 ℝ) (hs : p.signs.j1 = 1) :
    Filter.Tendsto (fun e : ℝ => (jacobianColumn (forward p) j e 0).lin.x)
      (nhdsWithin 0 {0}ᶜ) (nhds (V3.cross V3.ez (forward p j).t).x) ∧
    Filter.Tendsto (fun e : ℝ => (jacobianColumn (forward p) j e 0).lin.y)
      (nhdsWithin 0 {0}ᶜ) (nhds (V3.cross V3.ez (forward p j).t).y) ∧
    Filter.Tendsto (fun e : ℝ => (jacobianColumn (forward p) j e 0).lin.z)
      (nhdsWithin 0 {0}ᶜ) (nhds (V3.cross V3.ez (forward p j).t).z) := by
  -- column 1 of the all-joints lemma; the lever arm from `(0,0,c₁)` has the same cross product with `ẑ`
  have h := (JacCols.forward_revolute p j (i := 0) (by norm_num)).tendsto
  have e : ((JacCols.worldAxis (thetaOf p j) 0).cross
      ((forward p j).t.sub (JacCols.linkOrg p (thetaOf p j) 0))).scale (p.signs.get 0) =
      V3.cross V3.ez (forward p j).t := by
    rw [show JacCols.worldAxis (thetaOf p j) 0 = JacCols.ez from M3.one_mulVec _, JacCols.ez_eq,
      show p.signs.get 0 = 1 from hs]
    simp only [V3.scale, V3.cross, V3.sub, JacCols.ez, JacCols.linkOrg, org1]
    apply V3.ext' <;> ring
  rwa [e] at h

/-- a robot with `sign₁ = 1` (all signs `1`, no offsets), as assumed by `jacobian_column1_tendsto` -/
example : ∃ p : Params ℝ, p.signs.j1 = 1 :=
  ⟨⟨1, 2, 3, 4, 5, 6, 7, ⟨0, 0, 0, 0, 0, 0⟩, ⟨1, 1, 1, 1, 1, 1⟩, 6⟩, rfl⟩

/-- the step hypotheses of `jacobian_column1_angular` hold for the usual small step and `sign₁ = ±1` -/
example (s : ℝ) (hs : s = 1 ∨ s = -1) : (1e-6 : ℝ) ≠ 0 ∧ |(1e-6 : ℝ) * s| < Real.pi :=
  ⟨JacCols.usual_step.1, JacCols.abs_mul_sign_lt_pi hs JacCols.usual_step.2⟩

/-- the transpose property on a concrete 2-column Jacobian -/
example (c0 c1 f : Col ℝ) (x0 x1 : ℝ) :
    listDot (torquesFromVector [c0, c1] f) [x0, x1] = Col.dot f (jacMulVec [c0, c1] [x0, x1]) :=
  torques_virtual_work _ _ _

/-- additivity on vectors of length 6 -/
example (jac : List (Col ℝ)) (x0 x1 x2 x3 x4 x5 y0 y1 y2 y3 y4 y5 : ℝ) :
    jacMulVec jac [x0 + y0, x1 + y1, x2 + y2, x3 + y3, x4 + y4, x5 + y5] =
      (jacMulVec jac [x0, x1, x2, x3, x4, x5]).add (jacMulVec jac [y0, y1, y2, y3, y4, y5]) :=
  jacMulVec_add jac [x0, x1, x2, x3, x4, x5] [y0, y1, y2, y3, y4, y5] rfl

end Opw.C15
