/-
  C11 — Collision-aware IK (`kinematics_with_shape.rs`): every inverse entry point of
  `KinematicsWithShape` returns exactly the non-colliding solutions of the underlying stack, in
  unchanged order; forward, link poses, limits and singularity reports are those of the underlying
  stack.  `Kin.shape inner collides` is the model of `KinematicsWithShape`; `collides` is the verdict
  of `RobotBody::collides` for a joint vector (an arbitrary function here, so the theorems hold for
  every robot body, every environment and every check mode — see C10 for what that verdict is).
  Any number type, any inner `Kin` (any stack of the repository's own `Kinematics` implementations).
-/
import OpwVerif.Collisions
import OpwVerif.Wrappers
namespace Opw.C11

variable {R : Type} [OpwNum R]

/-- `KinematicsWithShape::inverse`: the inner answers through `remove_collisions` -/
theorem shape_inverse_eq_filter (k : Kin R) (col : J6 R → Bool) (pose : Iso R) :
    (Kin.shape k col).inverse pose = (k.inverse pose).filter (fun s => !col s) := rfl

/-- `inverse_continuing` -/
theorem shape_inverseContinuing_eq_filter (k : Kin R) (col : J6 R → Bool) (pose : Iso R) (prev : J6 R) :
    (Kin.shape k col).inverseContinuing pose prev =
      (k.inverseContinuing pose prev).filter (fun s => !col s) := rfl

/-- `inverse_5dof` -/
theorem shape_inverse5dof_eq_filter (k : Kin R) (col : J6 R → Bool) (pose : Iso R) (j6 : R) :
    (Kin.shape k col).inverse5dof pose j6 = (k.inverse5dof pose j6).filter (fun s => !col s) := rfl

/-- `inverse_continuing_5dof` -/
theorem shape_inverseContinuing5dof_eq_filter (k : Kin R) (col : J6 R → Bool) (pose : Iso R) (prev : J6 R) :
    (Kin.shape k col).inverseContinuing5dof pose prev =
      (k.inverseContinuing5dof pose prev).filter (fun s => !col s) := rfl

omit [OpwNum R] in
/-- `remove_collisions`: a loop that pushes what `RobotBody::collides` does not reject -/
theorem removeCollisions_eq_filter (col : J6 R → Bool) (l : List (J6 R)) :
    removeCollisions col l = l.filter (fun s => !col s) := rfl

omit [OpwNum R] in
/-- a sublist: same relative order, no new element, no element repeated more often -/
theorem removeCollisions_sublist (col : J6 R → Bool) (l : List (J6 R)) :
    (removeCollisions col l).Sublist l := List.filter_sublist

omit [OpwNum R] in
/-- "precisely those solutions … that are not reported colliding" -/
theorem mem_removeCollisions (col : J6 R → Bool) (l : List (J6 R)) (s : J6 R) :
    s ∈ removeCollisions col l ↔ s ∈ l ∧ col s = false := by
  simp [removeCollisions, List.mem_filter]

omit [OpwNum R] in
/-- wrapping a robot with shape once more with the same body changes nothing -/
theorem removeCollisions_idem (col : J6 R → Bool) (l : List (J6 R)) :
    removeCollisions col (removeCollisions col l) = removeCollisions col l := by
  simp [removeCollisions, List.filter_filter]

omit [OpwNum R] in
/-- where no answer collides the robot with shape answers like its inner stack -/
theorem removeCollisions_of_free (col : J6 R → Bool) (l : List (J6 R)) (h : ∀ s ∈ l, col s = false) :
    removeCollisions col l = l := by
  rw [removeCollisions, List.filter_eq_self]
  intro s hs; simp [h s hs]

/-- order is kept -/
theorem shape_sublist (k : Kin R) (col : J6 R → Bool) (pose : Iso R) (prev : J6 R) (j6 : R) :
    ((Kin.shape k col).inverse pose).Sublist (k.inverse pose) ∧
    ((Kin.shape k col).inverseContinuing pose prev).Sublist (k.inverseContinuing pose prev) ∧
    ((Kin.shape k col).inverse5dof pose j6).Sublist (k.inverse5dof pose j6) ∧
    ((Kin.shape k col).inverseContinuing5dof pose prev).Sublist (k.inverseContinuing5dof pose prev) :=
  ⟨removeCollisions_sublist _ _, removeCollisions_sublist _ _, removeCollisions_sublist _ _,
    removeCollisions_sublist _ _⟩

/-- the clause "not reported colliding", for the four entry points -/
theorem shape_nothing_colliding (k : Kin R) (col : J6 R → Bool) (pose : Iso R) (prev : J6 R) (j6 : R)
    (s : J6 R) :
    (s ∈ (Kin.shape k col).inverse pose → col s = false) ∧
    (s ∈ (Kin.shape k col).inverseContinuing pose prev → col s = false) ∧
    (s ∈ (Kin.shape k col).inverse5dof pose j6 → col s = false) ∧
    (s ∈ (Kin.shape k col).inverseContinuing5dof pose prev → col s = false) :=
  have h l (hs : s ∈ removeCollisions col l) := ((mem_removeCollisions col l s).1 hs).2
  ⟨h _, h _, h _, h _⟩

/-- the clause "solutions of the underlying kinematic stack": none is invented -/
theorem shape_nothing_new (k : Kin R) (col : J6 R → Bool) (pose : Iso R) (prev : J6 R) (j6 : R)
    (s : J6 R) :
    (s ∈ (Kin.shape k col).inverse pose → s ∈ k.inverse pose) ∧
    (s ∈ (Kin.shape k col).inverseContinuing pose prev → s ∈ k.inverseContinuing pose prev) ∧
    (s ∈ (Kin.shape k col).inverse5dof pose j6 → s ∈ k.inverse5dof pose j6) ∧
    (s ∈ (Kin.shape k col).inverseContinuing5dof pose prev → s ∈ k.inverseContinuing5dof pose prev) :=
  have h l (hs : s ∈ removeCollisions col l) := ((mem_removeCollisions col l s).1 hs).1
  ⟨h _, h _, h _, h _⟩

/-- the clause "precisely those": none that `collides` accepts is dropped -/
theorem shape_nothing_free_dropped (k : Kin R) (col : J6 R → Bool) (pose : Iso R) (prev : J6 R) (j6 : R)
    (s : J6 R) (hfree : col s = false) :
    (s ∈ k.inverse pose → s ∈ (Kin.shape k col).inverse pose) ∧
    (s ∈ k.inverseContinuing pose prev → s ∈ (Kin.shape k col).inverseContinuing pose prev) ∧
    (s ∈ k.inverse5dof pose j6 → s ∈ (Kin.shape k col).inverse5dof pose j6) ∧
    (s ∈ k.inverseContinuing5dof pose prev → s ∈ (Kin.shape k col).inverseContinuing5dof pose prev) :=
  have h l (hs : s ∈ l) := (mem_removeCollisions col l s).2 ⟨hs, hfree⟩
  ⟨h _, h _, h _, h _⟩

omit [OpwNum R] in
/-- a free solution is returned as many times as the inner stack returns it -/
theorem shape_count (col : J6 R → Bool) (l : List (J6 R)) (p : J6 R → Bool) :
    (removeCollisions col l).countP p = l.countP (fun s => p s && !col s) := by
  simp [removeCollisions, List.countP_filter]

/-- the clause "forward, link poses, limits and singularity reports are those of the underlying stack" -/
theorem shape_delegates (k : Kin R) (col : J6 R → Bool) (q : J6 R) :
    (Kin.shape k col).forward q = k.forward q ∧
    (Kin.shape k col).links q = k.links q ∧
    (Kin.shape k col).constraints = k.constraints ∧
    (Kin.shape k col).singularity q = k.singularity q ∧
    (Kin.shape k col).core = k.core := ⟨rfl, rfl, rfl, rfl, rfl⟩

/-- what `KinematicsWithShape::new` / `with_safety` wrap: the OPW solver with limits, inside a base
transform, inside a tool transform -/
def kwsStack (p : Params R) (c : Constraints R) (b t : Iso R) : Kin R :=
  Kin.tool (Kin.base (Kin.opw ⟨p, some c⟩) b) t

/-- what the delegated methods compute for the stack both constructors build -/
theorem shape_stack (p : Params R) (c : Constraints R) (b t : Iso R) (col : J6 R → Bool) (q : J6 R) :
    (Kin.shape (kwsStack p c b t) col).forward q = (b.mul (Opw.forward p q)).mul t ∧
    (Kin.shape (kwsStack p c b t) col).constraints = some c ∧
    (Kin.shape (kwsStack p c b t) col).singularity q = kinematicSingularity p q ∧
    (Kin.shape (kwsStack p c b t) col).links q = (chain p q).map (fun x => b.mul x) :=
  ⟨rfl, rfl, rfl, rfl⟩

/-- … and `inverse` / `inverse_continuing` for that stack: base and tool taken off the pose, the limit filter of the OPW
solver, then the collision filter -/
theorem shape_stack_inverse (p : Params R) (c : Constraints R) (b t : Iso R) (col : J6 R → Bool)
    (pose : Iso R) (prev : J6 R) :
    (Kin.shape (kwsStack p c b t) col).inverse pose =
      ((Opw.inverse ⟨p, some c⟩ (b.inv.mul (pose.mul t.inv))).filter (fun s => !col s)) ∧
    (Kin.shape (kwsStack p c b t) col).inverseContinuing pose prev =
      ((Opw.inverseContinuing ⟨p, some c⟩ (b.inv.mul (pose.mul t.inv)) prev).filter (fun s => !col s)) :=
  ⟨rfl, rfl⟩

/-- with the verdict of C10 plugged in -/
theorem shape_with_body (k : Kin R) (sceneAt : J6 R → Scene R) (own : Safety R)
    (choice : List (Nat × Nat) → Option (Nat × Nat)) (pose : Iso R) (s : J6 R) :
    s ∈ (Kin.shape k (fun q => collides (sceneAt q) own choice)).inverse pose ↔
      s ∈ k.inverse pose ∧ collides (sceneAt s) own choice = false :=
  mem_removeCollisions _ _ _

end Opw.C11
