/-
  C15b — Jacobian, geometric clause, ALL six joints (C15 treats joint 1 as the representative):
  "the Jacobian agrees column by column with the geometric one built from the joint axes and origins of
  the independent link model (axis × lever arm, axis) to within the differencing step."
  All theorems are over ℝ; they are the lemmas about a `JacCols.Revolute` joint applied to
  `JacCols.forward_revolute`.

  Notation (0-based joint index `i < 6`, the index used by `jacobianColumn`; `θ = thetaOf p j`):
   * `preRot θ i`    — `Aᵢ`: product of the elementary rotations before joint `i` (`1, rot1, …, rot5`);
   * `linkOrg p θ i` — `oᵢ`: origin of link `i` (`org1 … org6`), a point on the joint's axis;
   * `localAxis i`   — `eᵢ`: `ẑ` for joints 1, 4, 6 (indices 0, 3, 5), `ŷ` for joints 2, 3, 5;
   * `worldAxis θ i = Aᵢ eᵢ` — `aᵢ`: the joint axis in the world frame (a unit vector);
   * `jointRot θ i φ = Aᵢ R_{eᵢ}(φ) Aᵢᵀ` — `Eᵢ(φ)`: the rotation by `φ` about `aᵢ`;
   * `sᵢ = p.signs.get i`.
-/
import OpwVerif.Props.C15
namespace Opw.C15b
open Opw.JacCols

/-- the frames before the joints -/
theorem preRot_table (q : J6 ℝ) :
    preRot q 0 = M3.one ∧ preRot q 1 = rot1 q ∧ preRot q 2 = rot2 q ∧ preRot q 3 = rot3 q ∧
    preRot q 4 = rot4 q ∧ preRot q 5 = rot5 q := ⟨rfl, rfl, rfl, rfl, rfl, rfl⟩

/-- the link origins -/
theorem linkOrg_table (p : Params ℝ) (q : J6 ℝ) :
    linkOrg p q 0 = org1 p q ∧ linkOrg p q 1 = org2 p q ∧ linkOrg p q 2 = org3 p q ∧
    linkOrg p q 3 = org4 p q ∧ linkOrg p q 4 = org5 p q ∧ linkOrg p q 5 = org6 p q :=
  ⟨rfl, rfl, rfl, rfl, rfl, rfl⟩

/-- the local joint axes and the signs `sᵢ` -/
theorem localAxis_table (p : Params ℝ) :
    (localAxis 0 = ⟨0, 0, 1⟩ ∧ localAxis 1 = ⟨0, 1, 0⟩ ∧ localAxis 2 = ⟨0, 1, 0⟩ ∧
     localAxis 3 = ⟨0, 0, 1⟩ ∧ localAxis 4 = ⟨0, 1, 0⟩ ∧ localAxis 5 = ⟨0, 0, 1⟩) ∧
    (p.signs.get 0 = p.signs.j1 ∧ p.signs.get 1 = p.signs.j2 ∧ p.signs.get 2 = p.signs.j3 ∧
     p.signs.get 3 = p.signs.j4 ∧ p.signs.get 4 = p.signs.j5 ∧ p.signs.get 5 = p.signs.j6) :=
  ⟨⟨rfl, rfl, rfl, rfl, rfl, rfl⟩, ⟨rfl, rfl, rfl, rfl, rfl, rfl⟩⟩

/-- the world axes -/
theorem worldAxis_table (q : J6 ℝ) :
    worldAxis q 0 = ⟨0, 0, 1⟩ ∧ worldAxis q 1 = (rot1 q).mulVec ⟨0, 1, 0⟩ ∧
    worldAxis q 2 = (rot2 q).mulVec ⟨0, 1, 0⟩ ∧ worldAxis q 3 = (rot3 q).mulVec ⟨0, 0, 1⟩ ∧
    worldAxis q 4 = (rot4 q).mulVec ⟨0, 1, 0⟩ ∧ worldAxis q 5 = (rot5 q).mulVec ⟨0, 0, 1⟩ :=
  ⟨M3.one_mulVec _, rfl, rfl, rfl, rfl, rfl⟩

/-- the rotations about the world axes -/
theorem jointRot_table (q : J6 ℝ) (φ : ℝ) :
    jointRot q 0 φ = M3.rz (Real.sin φ) (Real.cos φ) ∧
    jointRot q 1 φ = ((rot1 q).mul (M3.ry (Real.sin φ) (Real.cos φ))).mul (rot1 q).transpose ∧
    jointRot q 2 φ = ((rot2 q).mul (M3.ry (Real.sin φ) (Real.cos φ))).mul (rot2 q).transpose ∧
    jointRot q 3 φ = ((rot3 q).mul (M3.rz (Real.sin φ) (Real.cos φ))).mul (rot3 q).transpose ∧
    jointRot q 4 φ = ((rot4 q).mul (M3.ry (Real.sin φ) (Real.cos φ))).mul (rot4 q).transpose ∧
    jointRot q 5 φ = ((rot5 q).mul (M3.rz (Real.sin φ) (Real.cos φ))).mul (rot5 q).transpose :=
  ⟨conj_one_left _, rfl, rfl, rfl, rfl, rfl⟩

theorem jointRot_is_rotation_about_axis (q : J6 ℝ) (i : Nat) (φ : ℝ) :
    IsRot (jointRot q i φ) ∧ jointRot q i 0 = M3.one ∧
    (jointRot q i φ).mulVec (worldAxis q i) = worldAxis q i ∧ (worldAxis q i).normSq = 1 := by
  have ha := worldAxis_normSq q i
  simp only [jointRot_eq]
  exact ⟨IsRot_axisRot ha φ, axisRot_zero _, axisRot_mulVec_axis ha φ, ha⟩

/-- θ-space: adding `ε` to θᵢ rotates the tool frame by `Eᵢ(ε)` about the link origin `oᵢ` -/
theorem perturb_joint (p : Params ℝ) (q : J6 ℝ) (i : Nat) (hi : i < 6) (e : ℝ) :
    rot6 (q.set i (q.get i + e)) = (jointRot q i e).mul (rot6 q) ∧
    org6 p (q.set i (q.get i + e)) =
      (linkOrg p q i).add ((jointRot q i e).mulVec ((org6 p q).sub (linkOrg p q i))) ∧
    forwardTheta p (q.set i (q.get i + e)) =
      ((jointRot q i e).mul (forwardTheta p q).1,
       (linkOrg p q i).add ((jointRot q i e).mulVec ((forwardTheta p q).2.sub (linkOrg p q i)))) := by
  have h := moved_tool p q hi e
  refine ⟨h.rot, h.org, ?_⟩
  ext
  · rw [forwardTheta_rot, forwardTheta_rot]; exact h.rot
  · rw [forwardTheta_tr, forwardTheta_tr]; exact h.org

/-- `forward`, any sign/offset convention: adding `ε` to joint `i` rotates the tool pose by
`Eᵢ(ε sᵢ)` about `oᵢ`, and the relative rotation used for the angular part of column `i` is a unit
quaternion with that matrix -/
theorem forward_perturb_joint (p : Params ℝ) (j : J6 ℝ) (i : Nat) (hi : i < 6) (e : ℝ) :
    (forward p (j.set i (j.get i + e))).t =
      (linkOrg p (thetaOf p j) i).add ((jointRot (thetaOf p j) i (e * p.signs.get i)).mulVec
        ((forward p j).t.sub (linkOrg p (thetaOf p j) i))) ∧
    (forward p (j.set i (j.get i + e))).q.toMat =
      (jointRot (thetaOf p j) i (e * p.signs.get i)).mul (forward p j).q.toMat ∧
    ((forward p (j.set i (j.get i + e))).q.mul (forward p j).q.conj).toMat =
      jointRot (thetaOf p j) i (e * p.signs.get i) ∧
    ((forward p (j.set i (j.get i + e))).q.mul (forward p j).q.conj).normSq = 1 := by
  have h := forward_moved p j hi e
  obtain ⟨hm, hu⟩ := h.rel (forward_unit p _) (forward_unit p _)
  exact ⟨h.org, h.rot, hm, hu⟩

/-- the linear part of column `i`: `((Eᵢ(ε sᵢ) − 1)(t − oᵢ)) / ε` -/
theorem jacobian_column_linear_all (p : Params ℝ) (j : J6 ℝ) (i : Nat) (hi : i < 6) (e : ℝ) :
    (jacobianColumn (forward p) j e i).lin =
      (((jointRot (thetaOf p j) i (e * p.signs.get i)).mulVec
          ((forward p j).t.sub (linkOrg p (thetaOf p j) i))).sub
        ((forward p j).t.sub (linkOrg p (thetaOf p j) i))).divs e := by
  rw [jointRot_eq]
  exact (forward_revolute p j hi).lin e

/-- the geometric column `aᵢ × v` is the derivative at `0` of `φ ↦ Eᵢ(φ) v` -/
theorem jointRot_hasDerivAt (q : J6 ℝ) (i : Nat) (v : V3 ℝ) :
    HasDerivAt (fun e : ℝ => ((jointRot q i e).mulVec v).x) ((worldAxis q i).cross v).x 0 ∧
    HasDerivAt (fun e : ℝ => ((jointRot q i e).mulVec v).y) ((worldAxis q i).cross v).y 0 ∧
    HasDerivAt (fun e : ℝ => ((jointRot q i e).mulVec v).z) ((worldAxis q i).cross v).z 0 := by
  simpa only [jointRot_eq, mul_one, V3.scale] using axisRot_hasDerivAt (worldAxis_normSq q i) v 1

/-- hence the linear part of column `i` converges to the geometric column `sᵢ · aᵢ × (t − oᵢ)` as
`ε → 0` -/
theorem jacobian_column_tendsto (p : Params ℝ) (j : J6 ℝ) (i : Nat) (hi : i < 6) :
    Filter.Tendsto (fun e : ℝ => (jacobianColumn (forward p) j e i).lin.x) (nhdsWithin 0 {0}ᶜ)
      (nhds (((worldAxis (thetaOf p j) i).cross
        ((forward p j).t.sub (linkOrg p (thetaOf p j) i))).scale (p.signs.get i)).x) ∧
    Filter.Tendsto (fun e : ℝ => (jacobianColumn (forward p) j e i).lin.y) (nhdsWithin 0 {0}ᶜ)
      (nhds (((worldAxis (thetaOf p j) i).cross
        ((forward p j).t.sub (linkOrg p (thetaOf p j) i))).scale (p.signs.get i)).y) ∧
    Filter.Tendsto (fun e : ℝ => (jacobianColumn (forward p) j e i).lin.z) (nhdsWithin 0 {0}ᶜ)
      (nhds (((worldAxis (thetaOf p j) i).cross
        ((forward p j).t.sub (linkOrg p (thetaOf p j) i))).scale (p.signs.get i)).z) :=
  (forward_revolute p j hi).tendsto

/-- the angular part of column `i` is exactly `sᵢ · aᵢ` for every step with `ε ≠ 0`, `|ε sᵢ| < π`;
no limit is needed -/
theorem jacobian_column_angular_all (p : Params ℝ) (j : J6 ℝ) (i : Nat) (hi : i < 6) (e : ℝ)
    (he : e ≠ 0) (hs : |e * p.signs.get i| < Real.pi) :
    (jacobianColumn (forward p) j e i).ang =
      (worldAxis (thetaOf p j) i).scale (p.signs.get i) :=
  (forward_revolute p j hi).ang he hs

/-- C15, geometric clause, every joint `i < 6`, with axis `a = l.q · eᵢ` and origin `o = l.t` read off
link `i` of `chain p j` (`forward_with_joint_poses`): the linear part of column `i` converges to
`s · a × (t − o)` and the angular part is `s · a` exactly. -/
theorem jacobian_column_geometric_limit (p : Params ℝ) (j : J6 ℝ) (i : Nat) (hi : i < 6) :
    ∃ l : Iso ℝ, (chain p j)[i]? = some l ∧
      (l.q.rotate (localAxis i)).normSq = 1 ∧
      (∀ e : ℝ, (computeJacobian (forward p) j e)[i]? = some (jacobianColumn (forward p) j e i)) ∧
      Filter.Tendsto (fun e : ℝ => (jacobianColumn (forward p) j e i).lin.x) (nhdsWithin 0 {0}ᶜ)
        (nhds (((l.q.rotate (localAxis i)).cross ((forward p j).t.sub l.t)).scale (p.signs.get i)).x) ∧
      Filter.Tendsto (fun e : ℝ => (jacobianColumn (forward p) j e i).lin.y) (nhdsWithin 0 {0}ᶜ)
        (nhds (((l.q.rotate (localAxis i)).cross ((forward p j).t.sub l.t)).scale (p.signs.get i)).y) ∧
      Filter.Tendsto (fun e : ℝ => (jacobianColumn (forward p) j e i).lin.z) (nhdsWithin 0 {0}ᶜ)
        (nhds (((l.q.rotate (localAxis i)).cross ((forward p j).t.sub l.t)).scale (p.signs.get i)).z) ∧
      ∀ e : ℝ, e ≠ 0 → |e * p.signs.get i| < Real.pi →
        (jacobianColumn (forward p) j e i).ang = (l.q.rotate (localAxis i)).scale (p.signs.get i) := by
  obtain ⟨l, hl, h⟩ := chain_revolute p j hi
  exact ⟨l, hl, h.axis, fun e => (C15.computeJacobian_columns (forward p) j e).2 i hi,
    h.tendsto.1, h.tendsto.2.1, h.tendsto.2.2, fun e => h.ang⟩

/-- Rodrigues' formula for `Eᵢ(φ)` -/
theorem jointRot_rodrigues_formula (q : J6 ℝ) (i : Nat) (φ : ℝ) (v : V3 ℝ) :
    (jointRot q i φ).mulVec v =
      (v.add (((worldAxis q i).cross v).scale (Real.sin φ))).add
        (((worldAxis q i).cross ((worldAxis q i).cross v)).scale (1 - Real.cos φ)) := by
  rw [jointRot_eq]
  exact axisRot_mulVec (worldAxis_normSq q i) φ v

/-- C15, geometric clause, "to within the differencing step", for `signᵢ = ±1` and `0 < |ε| ≤ 1`:
every component of the linear part of column `i` is within `|ε| · ‖t − o‖` (step times lever-arm
length) of `s · a × (t − o)`, and the angular part is exactly `s · a`.  For any sign and step the bound
is `JacCols.fdBound ε sᵢ · ‖t − o‖` (`(JacCols.forward_revolute p j hi).lin_error`). -/
theorem jacobian_column_geometric_within_step (p : Params ℝ) (j : J6 ℝ) (i : Nat) (hi : i < 6)
    (hs : p.signs.get i = 1 ∨ p.signs.get i = -1) (e : ℝ) (he : e ≠ 0) (he1 : |e| ≤ 1) :
    ∃ l : Iso ℝ, (chain p j)[i]? = some l ∧
      (computeJacobian (forward p) j e)[i]? = some (jacobianColumn (forward p) j e i) ∧
      |(jacobianColumn (forward p) j e i).lin.x -
          (((l.q.rotate (localAxis i)).cross ((forward p j).t.sub l.t)).scale (p.signs.get i)).x| ≤
        |e| * ((forward p j).t.sub l.t).norm ∧
      |(jacobianColumn (forward p) j e i).lin.y -
          (((l.q.rotate (localAxis i)).cross ((forward p j).t.sub l.t)).scale (p.signs.get i)).y| ≤
        |e| * ((forward p j).t.sub l.t).norm ∧
      |(jacobianColumn (forward p) j e i).lin.z -
          (((l.q.rotate (localAxis i)).cross ((forward p j).t.sub l.t)).scale (p.signs.get i)).z| ≤
        |e| * ((forward p j).t.sub l.t).norm ∧
      (jacobianColumn (forward p) j e i).ang = (l.q.rotate (localAxis i)).scale (p.signs.get i) := by
  obtain ⟨l, hl, h⟩ := chain_revolute p j hi
  exact ⟨l, hl, (C15.computeJacobian_columns (forward p) j e).2 i hi, h.within_step hs he he1⟩

example (p : Params ℝ) (j : J6 ℝ) :
    ∀ i ∈ [0, 1, 2, 3, 4, 5], ∃ l : Iso ℝ, (chain p j)[i]? = some l := by
  intro i hi
  have : i < 6 := by
    revert i
    decide
  obtain ⟨l, hl, -⟩ := jacobian_column_geometric_limit p j i this
  exact ⟨l, hl⟩

/-- the step hypotheses of `jacobian_column_angular_all` hold for the usual small step and `sᵢ = ±1` -/
example (s : ℝ) (hs : s = 1 ∨ s = -1) : (1e-6 : ℝ) ≠ 0 ∧ |(1e-6 : ℝ) * s| < Real.pi :=
  ⟨usual_step.1, abs_mul_sign_lt_pi hs usual_step.2⟩

/-- a concrete robot (all signs `1` except `sign₂ = -1`, no offsets) at the zero configuration: joint 2
(index 1) has world axis `ŷ`, and with step `1/2` the angular part of column 2 is `-ŷ` -/
example :
    let p : Params ℝ := ⟨1, 2, 3, 4, 5, 6, 7, ⟨0, 0, 0, 0, 0, 0⟩, ⟨1, -1, 1, 1, 1, 1⟩, 6⟩
    let j : J6 ℝ := ⟨0, 0, 0, 0, 0, 0⟩
    worldAxis (thetaOf p j) 1 = ⟨0, 1, 0⟩ ∧
    (jacobianColumn (forward p) j (1 / 2) 1).ang = ⟨0, -1, 0⟩ := by
  intro p j
  have ha : worldAxis (thetaOf p j) 1 = ⟨0, 1, 0⟩ := by
    have h0 : (thetaOf p j).j1 = 0 := by simp only [thetaOf, p, j]; ring
    show (M3.rz (Real.sin (thetaOf p j).j1) (Real.cos (thetaOf p j).j1)).mulVec ey = _
    rw [h0, Real.sin_zero, Real.cos_zero]
    simp only [M3.mulVec, M3.rz, ey, lit0, lit1]
    apply V3.ext' <;> ring
  refine ⟨ha, ?_⟩
  have hs : p.signs.get 1 = -1 := rfl
  rw [jacobian_column_angular_all p j 1 (by norm_num) (1 / 2) (by norm_num)
    (abs_mul_sign_lt_pi (Or.inr hs) (by rw [abs_of_pos (by norm_num)]; norm_num)), ha, hs]
  simp only [V3.scale]
  apply V3.ext' <;> ring

/-- the hypotheses of `jacobian_column_geometric_within_step` hold for a concrete robot (signs `±1`) and
the usual small step, for every joint -/
example (j : J6 ℝ) (i : Nat) (hi : i < 6) :
    let p : Params ℝ := ⟨1, 2, 3, 4, 5, 6, 7, ⟨0, 0, 0, 0, 0, 0⟩, ⟨1, -1, 1, 1, -1, 1⟩, 6⟩
    ∃ l : Iso ℝ, (chain p j)[i]? = some l ∧
      (jacobianColumn (forward p) j 1e-6 i).ang = (l.q.rotate (localAxis i)).scale (p.signs.get i) := by
  intro p
  have hs : p.signs.get i = 1 ∨ p.signs.get i = -1 := by
    rcases six_cases hi with rfl | rfl | rfl | rfl | rfl | rfl
    · exact Or.inl rfl
    · exact Or.inr rfl
    · exact Or.inl rfl
    · exact Or.inl rfl
    · exact Or.inr rfl
    · exact Or.inl rfl
  obtain ⟨l, hl, -, -, -, -, h⟩ := jacobian_column_geometric_within_step p j i hi hs 1e-6
    usual_step.1 usual_step.2
  exact ⟨l, hl, h⟩

end Opw.C15b
