/-
  C07 — Joint limits (`constraints.rs`): a joint vector is accepted by a constraint set exactly
  when, for every joint, the angle taken modulo 2π lies on the arc that starts at `from` and runs in
  the positive direction to `to` (wrapping when `from > to`), boundaries included.  Acceptance is
  invariant under adding whole turns to the angle or to both limits, a span of a full turn or more
  accepts everything, `from == to` means the joint is unconstrained, and the reported centre of every
  range is itself accepted.
  The property theorems; some restate a fact of `Lemmas/Limits.lean` under this namespace, the one the
  check of C07 audits, and `limOk_of_abs_le_twelve`, `limOk_three_one`, `wrap_three_one`,
  `unwrapTop_three_one` serve the examples.
  Kinds: [R] real arithmetic (the model text evaluated at `ℝ`), [G] generic (any number type, holds
  of the Float reading itself).
  Over `ℝ` there is no infinity (`infTol = 1/0 = 0`, `isInfinite` is constantly `false`), so the
  [R] theorems carry the hypothesis `from ≠ to`; the unconstrained case `from == to` is covered by
  the [G] theorems `centerTol_eq`, `insideBounds_of_infinite`, `unconstrained_accepts`.
-/
import OpwVerif.Lemmas.Limits
import Mathlib.Analysis.Real.Pi.Bounds
namespace Opw.C07
open Opw Opw.Limits Real

/-- `x`, taken modulo whole turns, lies on the closed arc from `f` in the positive direction to `t`.
The upper end `unwrapTop f t` (defined in `Lemmas/Limits.lean`, where the loop is shown to compute it)
is `t` itself when `f ≤ t`, else the least `t + 2πn`, `n : ℕ`, that is `≥ f`. -/
def OnArc (f t x : ℝ) : Prop :=
  ∃ k : ℤ, f ≤ x + 2 * π * k ∧ x + 2 * π * k ≤ unwrapTop f t

/-- Hypothesis on one joint's limits for the [R] theorems: constrained (`from ≠ to`) and the
unwrap loop's fuel (`normFuel = 100000` iterations) suffices.  Implied by `|f|, |t| ≤ 4π`
(`limOk_of_abs_le`). -/
def LimOk (f t : ℝ) : Prop := f ≠ t ∧ (f - t) / (2 * π) < (normFuel : ℝ)

def LimsOk (fr tt : J6 ℝ) : Prop :=
  LimOk fr.j1 tt.j1 ∧ LimOk fr.j2 tt.j2 ∧ LimOk fr.j3 tt.j3 ∧
  LimOk fr.j4 tt.j4 ∧ LimOk fr.j5 tt.j5 ∧ LimOk fr.j6 tt.j6

/-- [R] limits within `±4π` (any robot's limits in radians) satisfy the fuel hypothesis -/
theorem limOk_of_abs_le {f t : ℝ} (hne : f ≠ t) (hf : |f| ≤ 4 * π) (ht : |t| ≤ 4 * π) : LimOk f t :=
  ⟨hne, fuel_of_abs_le hf ht⟩

/-- `12 < 4π`: this covers the limits used in the examples -/
theorem limOk_of_abs_le_twelve {f t : ℝ} (hne : f ≠ t) (hf : |f| ≤ 12) (ht : |t| ≤ 12) : LimOk f t :=
  have h : (12 : ℝ) ≤ 4 * π := by linarith [pi_gt_three]
  limOk_of_abs_le hne (hf.trans h) (ht.trans h)

/-- the running example: the wrapping pair `from = 3`, `to = 1` -/
theorem limOk_three_one : LimOk 3 1 :=
  limOk_of_abs_le_twelve (by norm_num) (by norm_num [abs_le]) (by norm_num [abs_le])

example : LimOk 3 1 := limOk_three_one

theorem unwrapTop_turns (f t : ℝ) : ∃ n : ℕ, unwrapTop f t = t + 2 * π * n :=
  ⟨_, unwrapTop_eq f t⟩

theorem unwrapTop_least {f t : ℝ} (n : ℕ) (h : f ≤ t + 2 * π * n) : unwrapTop f t ≤ t + 2 * π * n := by
  rw [unwrapTop_eq]
  exact (add_le_add_iff_left t).2 (mul_le_mul_of_nonneg_left
    (Nat.cast_le.2 (Nat.ceil_le.2 ((div_le_iff₀' two_pi_pos).2 (sub_le_iff_le_add'.2 h))))
    two_pi_pos.le)

/-- the pair `from = 3`, `to = 1` wraps, by less than a turn -/
theorem wrap_three_one : (1 : ℝ) < 3 ∧ (3 : ℝ) ≤ 1 + 2 * π :=
  ⟨by norm_num, by linarith [pi_gt_three]⟩

theorem unwrapTop_three_one : unwrapTop 3 1 = 1 + 2 * π :=
  unwrapTop_of_wrap wrap_three_one.1 wrap_three_one.2

example : unwrapTop 3 1 = 1 + 2 * π := unwrapTop_three_one

/-- [R] `inside_bounds`: some whole-turn translate of the angle is within `tol` of the centre -/
theorem insideBounds_iff (a c tol : ℝ) :
    insideBounds a c tol = true ↔ ∃ k : ℤ, |a + 2 * π * k - c| ≤ tol :=
  insideBounds_real_iff a c tol

/-- non-vacuity: angle `7`, centre `1`, tolerance `1/2` is accepted (via `k = -1`, `7 − 2π ≈ 0.717`);
with tolerance `0` the centre itself is accepted -/
example : insideBounds (7 : ℝ) 1 (1 / 2) = true ∧ insideBounds (1 : ℝ) 1 0 = true := by
  constructor
  · rw [insideBounds_iff]
    refine ⟨-1, ?_⟩
    rw [abs_le, Int.cast_neg, Int.cast_one, mul_neg_one]
    exact ⟨by linarith [pi_lt_d2], by linarith [pi_gt_three]⟩
  · rw [insideBounds_iff]
    exact ⟨0, by push_cast; norm_num⟩

/-- [R] the unwrap loop of `compute_centers` returns the least `to + 2πn ≥ from` -/
theorem unwrapTo_spec (fuel : ℕ) (a b : ℝ) (hab : b < a) (hfuel : (a - b) / (2 * π) < fuel) :
    a ≤ unwrapTo fuel a b ∧ unwrapTo fuel a b - 2 * π < a ∧
      ∃ n : ℕ, unwrapTo fuel a b = b + 2 * π * n := by
  rw [unwrapTo_eq fuel a b hfuel]
  exact ⟨unwrapTop_ge a b, unwrapTop_sub_lt hab, unwrapTop_turns a b⟩

theorem unwrapTo_unique (fuel : ℕ) (a b : ℝ) (hab : b < a) (hfuel : (a - b) / (2 * π) < fuel)
    (n : ℕ) (h1 : a ≤ b + 2 * π * n) (h2 : b + 2 * π * n - 2 * π < a) :
    unwrapTo fuel a b = b + 2 * π * n := by
  rw [unwrapTo_eq fuel a b hfuel, unwrapTop_unique hab h1 h2]

theorem unwrapTo_eq_unwrapTop (fuel : ℕ) (a b : ℝ) (hfuel : (a - b) / (2 * π) < fuel) :
    unwrapTo fuel a b = unwrapTop a b :=
  unwrapTo_eq fuel a b hfuel

theorem unwrapTo_normFuel (a b : ℝ) (ha : |a| ≤ 4 * π) (hb : |b| ≤ 4 * π) (hab : b < a) :
    a ≤ unwrapTo normFuel a b ∧ unwrapTo normFuel a b - 2 * π < a ∧
      ∃ n : ℕ, unwrapTo normFuel a b = b + 2 * π * n :=
  unwrapTo_spec normFuel a b hab (fuel_of_abs_le ha hb)

example : unwrapTo normFuel (3 : ℝ) 1 = 1 + 2 * π := by
  rw [unwrapTo_eq_unwrapTop _ _ _ limOk_three_one.2, unwrapTop_three_one]

/-- [R] the arc as `inside_bounds` sees it: the centre is the midpoint of `[f, unwrapTop f t]`, the
tolerance its half width -/
theorem onArc_iff_inside (f t x : ℝ) :
    OnArc f t x ↔ insideBounds x ((f + unwrapTop f t) / 2) ((unwrapTop f t - f) / 2) = true :=
  (insideBounds_mid_iff x f (unwrapTop f t)).symm

/-- [R] the centre/tolerance pair computed by `compute_centers` makes `inside_bounds` accept exactly
the angles on the closed arc from `f` to `t` -/
theorem inside_iff_onArc {f t : ℝ} (h : LimOk f t) (x : ℝ) :
    insideBounds x (centerTol f t).1 (centerTol f t).2 = true ↔ OnArc f t x := by
  rw [centerTol_real h.1 h.2, onArc_iff_inside]

theorem onArc_of_mem {f t x : ℝ} (h1 : f ≤ x) (h2 : x ≤ unwrapTop f t) : OnArc f t x :=
  ⟨0, by rwa [Int.cast_zero, mul_zero, add_zero], by rwa [Int.cast_zero, mul_zero, add_zero]⟩

theorem inside_iff_onArc_of_bounds {f t : ℝ} (hne : f ≠ t) (hf : |f| ≤ 4 * π) (ht : |t| ≤ 4 * π)
    (x : ℝ) : insideBounds x (centerTol f t).1 (centerTol f t).2 = true ↔ OnArc f t x :=
  inside_iff_onArc (limOk_of_abs_le hne hf ht) x

/-- [R] boundaries included: `from` is accepted -/
theorem from_accepted {f t : ℝ} (h : LimOk f t) :
    insideBounds f (centerTol f t).1 (centerTol f t).2 = true := by
  rw [inside_iff_onArc h]
  exact onArc_of_mem le_rfl (unwrapTop_ge f t)

/-- [R] boundaries included: `to` is accepted -/
theorem to_accepted {f t : ℝ} (h : LimOk f t) :
    insideBounds t (centerTol f t).1 (centerTol f t).2 = true := by
  rw [inside_iff_onArc h]
  obtain ⟨n, hn⟩ := unwrapTop_turns f t
  refine ⟨n, ?_, ?_⟩ <;> rw [Int.cast_natCast, ← hn]
  exact unwrapTop_ge f t

theorem onArc_iff_of_lt {f t : ℝ} (h : f < t) (x : ℝ) :
    OnArc f t x ↔ ∃ k : ℤ, f ≤ x + 2 * π * k ∧ x + 2 * π * k ≤ t := by
  unfold OnArc; rw [unwrapTop_of_le h.le]

theorem onArc_iff_of_wrap {f t : ℝ} (h1 : t < f) (h2 : f ≤ t + 2 * π) (x : ℝ) :
    OnArc f t x ↔ ∃ k : ℤ, f ≤ x + 2 * π * k ∧ x + 2 * π * k ≤ t + 2 * π := by
  unfold OnArc; rw [unwrapTop_of_wrap h1 h2]

/-- non-vacuity and discrimination: for `from = 3`, `to = 1` (arc `[3, 1 + 2π]`) the angle `0`
(≡ `2π`) is accepted and the angle `2` is rejected -/
example : insideBounds (0 : ℝ) (centerTol (3 : ℝ) 1).1 (centerTol (3 : ℝ) 1).2 = true ∧
    insideBounds (2 : ℝ) (centerTol (3 : ℝ) 1).1 (centerTol (3 : ℝ) 1).2 = false := by
  have hp := pi_gt_three
  obtain ⟨h1, h2⟩ := wrap_three_one
  constructor
  · rw [inside_iff_onArc limOk_three_one, onArc_iff_of_wrap h1 h2]
    exact ⟨1, by push_cast; linarith, by push_cast; linarith⟩
  · rw [← Bool.not_eq_true, inside_iff_onArc limOk_three_one, onArc_iff_of_wrap h1 h2]
    rintro ⟨k, hk1, hk2⟩
    -- `2πk ∈ [1, 2π − 1]` is less than a turn, so `k = 0`
    have hk : k = 0 := Angle.turn_eq_zero (abs_lt.2 ⟨by linarith, by linarith⟩)
    rw [hk, Int.cast_zero, mul_zero] at hk1
    linarith

/-- [R] `Constraints::compliant` on a constraint set built by `Constraints::new`: accepted exactly
when every joint is on its arc -/
theorem compliant_iff_arc (fr tt : J6 ℝ) (w : ℝ) (h : LimsOk fr tt) (a : J6 ℝ) :
    (Constraints.mk' fr tt w).compliant a = true ↔
      OnArc fr.j1 tt.j1 a.j1 ∧ OnArc fr.j2 tt.j2 a.j2 ∧ OnArc fr.j3 tt.j3 a.j3 ∧
      OnArc fr.j4 tt.j4 a.j4 ∧ OnArc fr.j5 tt.j5 a.j5 ∧ OnArc fr.j6 tt.j6 a.j6 := by
  obtain ⟨h1, h2, h3, h4, h5, h6⟩ := h
  rw [compliant_mk', inside_iff_onArc h1, inside_iff_onArc h2, inside_iff_onArc h3,
    inside_iff_onArc h4, inside_iff_onArc h5, inside_iff_onArc h6]

example : LimsOk ⟨3, -1, 3, -2, 3, -3⟩ ⟨1, 1, 1, 2, 1, 3⟩ := by
  refine ⟨?_, ?_, ?_, ?_, ?_, ?_⟩ <;> apply limOk_of_abs_le_twelve <;> norm_num [abs_le]

theorem onArc_add_turn_angle (f t x : ℝ) (k : ℤ) : OnArc f t (x + 2 * π * k) ↔ OnArc f t x := by
  rw [onArc_iff_inside, onArc_iff_inside, insideBounds_add_turn]

/-- [R] "the angle taken modulo 2π": `x` is on the arc iff its representative in `[0, 2π)` is -/
theorem onArc_mod (f t x : ℝ) : OnArc f t x ↔ OnArc f t (x - 2 * π * ⌊x / (2 * π)⌋) := by
  rw [← onArc_add_turn_angle f t x (-⌊x / (2 * π)⌋), Int.cast_neg, mul_neg, ← sub_eq_add_neg]

theorem inside_add_turn_angle (x c tol : ℝ) (k : ℤ) :
    insideBounds (x + 2 * π * k) c tol = insideBounds x c tol :=
  insideBounds_add_turn x c tol k

/-- [R] whole turns added independently per joint, any constraint set -/
theorem compliant_add_turn_angle (c : Constraints ℝ) (a : J6 ℝ) (k1 k2 k3 k4 k5 k6 : ℤ) :
    c.compliant ⟨a.j1 + 2 * π * k1, a.j2 + 2 * π * k2, a.j3 + 2 * π * k3,
                 a.j4 + 2 * π * k4, a.j5 + 2 * π * k5, a.j6 + 2 * π * k6⟩ = c.compliant a := by
  unfold Constraints.compliant
  simp only [insideBounds_add_turn]

example : ∀ c : Constraints ℝ, c.compliant ⟨7 + 2 * π * (3 : ℤ), 0 + 2 * π * (-2 : ℤ), 1 + 2 * π * (0 : ℤ),
    2 + 2 * π * (1 : ℤ), 3 + 2 * π * (5 : ℤ), 4 + 2 * π * (-1 : ℤ)⟩ = c.compliant ⟨7, 0, 1, 2, 3, 4⟩ :=
  fun c => compliant_add_turn_angle c ⟨7, 0, 1, 2, 3, 4⟩ 3 (-2) 0 1 5 (-1)

/-- [R] both limits shifted by the same whole number of turns: the same arc -/
theorem onArc_add_turn_limits (f t x : ℝ) (m : ℤ) :
    OnArc (f + 2 * π * m) (t + 2 * π * m) x ↔ OnArc f t x := by
  rw [onArc_iff_inside, onArc_iff_inside, unwrapTop_add_turn, add_sub_add_right_eq_sub, mid_shift,
    insideBounds_add_turn_centre]

theorem inside_add_turn_limits {f t : ℝ} (h : LimOk f t) (m : ℤ) (x : ℝ) :
    insideBounds x (centerTol (f + 2 * π * m) (t + 2 * π * m)).1
        (centerTol (f + 2 * π * m) (t + 2 * π * m)).2 =
      insideBounds x (centerTol f t).1 (centerTol f t).2 := by
  rw [centerTol_shift h.1 h.2 m]
  exact insideBounds_add_turn_centre _ _ _ _

/-- [R] the same for `compliant`, a shift per joint -/
theorem compliant_add_turn_limits (fr tt : J6 ℝ) (w : ℝ) (h : LimsOk fr tt)
    (m1 m2 m3 m4 m5 m6 : ℤ) (a : J6 ℝ) :
    (Constraints.mk'
        ⟨fr.j1 + 2 * π * m1, fr.j2 + 2 * π * m2, fr.j3 + 2 * π * m3,
         fr.j4 + 2 * π * m4, fr.j5 + 2 * π * m5, fr.j6 + 2 * π * m6⟩
        ⟨tt.j1 + 2 * π * m1, tt.j2 + 2 * π * m2, tt.j3 + 2 * π * m3,
         tt.j4 + 2 * π * m4, tt.j5 + 2 * π * m5, tt.j6 + 2 * π * m6⟩ w).compliant a =
      (Constraints.mk' fr tt w).compliant a := by
  obtain ⟨h1, h2, h3, h4, h5, h6⟩ := h
  rw [Bool.eq_iff_iff, compliant_mk', compliant_mk']
  dsimp only
  rw [inside_add_turn_limits h1, inside_add_turn_limits h2, inside_add_turn_limits h3,
    inside_add_turn_limits h4, inside_add_turn_limits h5, inside_add_turn_limits h6]

example (x : ℝ) :
    insideBounds x (centerTol (3 + 2 * π * (-1 : ℤ)) (1 + 2 * π * (-1 : ℤ))).1
        (centerTol (3 + 2 * π * (-1 : ℤ)) (1 + 2 * π * (-1 : ℤ))).2 =
      insideBounds x (centerTol (3 : ℝ) 1).1 (centerTol (3 : ℝ) 1).2 :=
  inside_add_turn_limits limOk_three_one (-1) x

/-- [R] a span of a full turn or more accepts every angle (`h1` follows from `h2`; what is used is
that the tolerance `(t − f) / 2` is at least `π`, `insideBounds_of_pi_le`) -/
theorem full_turn_accepts_all {f t : ℝ} (h1 : f < t) (h2 : 2 * π ≤ t - f) (x : ℝ) :
    insideBounds x (centerTol f t).1 (centerTol f t).2 = true := by
  rw [centerTol_real_lt h1]
  exact insideBounds_of_pi_le _ _ ((le_div_iff₀' two_pos).2 h2)

/-- [R] spans of a full turn or more on every joint: every joint vector is accepted -/
theorem full_turn_compliant (fr tt : J6 ℝ) (w : ℝ)
    (h1 : fr.j1 < tt.j1 ∧ 2 * π ≤ tt.j1 - fr.j1) (h2 : fr.j2 < tt.j2 ∧ 2 * π ≤ tt.j2 - fr.j2)
    (h3 : fr.j3 < tt.j3 ∧ 2 * π ≤ tt.j3 - fr.j3) (h4 : fr.j4 < tt.j4 ∧ 2 * π ≤ tt.j4 - fr.j4)
    (h5 : fr.j5 < tt.j5 ∧ 2 * π ≤ tt.j5 - fr.j5) (h6 : fr.j6 < tt.j6 ∧ 2 * π ≤ tt.j6 - fr.j6)
    (a : J6 ℝ) : (Constraints.mk' fr tt w).compliant a = true :=
  (compliant_mk' fr tt w a).2 ⟨full_turn_accepts_all h1.1 h1.2 _, full_turn_accepts_all h2.1 h2.2 _,
    full_turn_accepts_all h3.1 h3.2 _, full_turn_accepts_all h4.1 h4.2 _,
    full_turn_accepts_all h5.1 h5.2 _, full_turn_accepts_all h6.1 h6.2 _⟩

example (x : ℝ) : insideBounds x (centerTol (-4 : ℝ) 4).1 (centerTol (-4 : ℝ) 4).2 = true :=
  full_turn_accepts_all (by norm_num) (by linarith [pi_le_four]) x

/-- [R] the reported centre of a range is itself accepted -/
theorem centre_accepted {f t : ℝ} (h : LimOk f t) :
    insideBounds (centerTol f t).1 (centerTol f t).1 (centerTol f t).2 = true := by
  rw [insideBounds_iff]
  refine ⟨0, ?_⟩
  rw [Int.cast_zero, mul_zero, add_zero, sub_self, abs_zero]
  exact centerTol_tol_nonneg h.1 h.2

/-- [R] the centres a constraint set reports are themselves accepted -/
theorem centres_compliant (fr tt : J6 ℝ) (w : ℝ) (h : LimsOk fr tt) :
    (Constraints.mk' fr tt w).compliant (Constraints.mk' fr tt w).centers = true :=
  (compliant_mk' fr tt w _).2 ⟨centre_accepted h.1, centre_accepted h.2.1, centre_accepted h.2.2.1,
    centre_accepted h.2.2.2.1, centre_accepted h.2.2.2.2.1, centre_accepted h.2.2.2.2.2⟩

example : (centerTol (3 : ℝ) 1).1 = 2 + π ∧
    insideBounds (2 + π) (centerTol (3 : ℝ) 1).1 (centerTol (3 : ℝ) 1).2 = true := by
  have hc : (centerTol (3 : ℝ) 1).1 = 2 + π := by
    rw [centerTol_real limOk_three_one.1 limOk_three_one.2, unwrapTop_three_one]
    show (3 + (1 + 2 * π)) / 2 = 2 + π
    ring
  refine ⟨hc, ?_⟩
  have h := centre_accepted limOk_three_one
  rw [hc] at h ⊢
  exact h

theorem insideBounds_of_infinite {R : Type} [OpwNum R] (a c tol : R) :
    isInfinite tol = true → insideBounds a c tol = true := fun h => by
  unfold insideBounds
  rw [if_pos h]

/-- [G] `from == to` (Rust `==`) gives the infinite tolerance `1.0 / 0.0` -/
theorem centerTol_eq {R : Type} [OpwNum R] (a b : R) :
    feq a b = true → (centerTol a b).2 = infTol := fun h => by
  rw [centerTol_of_feq a b h]

/-- [G] `from == to` means unconstrained: every angle is accepted, provided `1.0 / 0.0` is infinite in
the number type (true for `f64`; false for `ℝ`, which is why the [R] theorems assume `from ≠ to`) -/
theorem unconstrained_accepts {R : Type} [OpwNum R] (a b x : R) (h : feq a b = true)
    (hinf : isInfinite (infTol : R) = true) :
    insideBounds x (centerTol a b).1 (centerTol a b).2 = true := by
  rw [centerTol_of_feq a b h]
  exact insideBounds_of_infinite _ _ _ hinf

/-- [G] `Constraints::from_degrees` is `Constraints::new` on the limits converted by `to_radians` -/
theorem ofDegrees_eq_mk' {R : Type} [OpwNum R] (f t : J6 R) (w : R) :
    Constraints.ofDegrees f t w = Constraints.mk' (f.map toRadians) (t.map toRadians) w := rfl

/-- [G] `Constraints::filter` keeps exactly the compliant elements (order and multiplicity preserved:
it is `List.filter`) -/
theorem filter_spec {R : Type} [OpwNum R] (c : Constraints R) (l : List (J6 R)) (s : J6 R) :
    s ∈ c.filter l ↔ s ∈ l ∧ c.compliant s = true := by
  unfold Constraints.filter
  exact List.mem_filter

theorem filter_eq {R : Type} [OpwNum R] (c : Constraints R) (l : List (J6 R)) :
    c.filter l = l.filter c.compliant := rfl

end Opw.C07
