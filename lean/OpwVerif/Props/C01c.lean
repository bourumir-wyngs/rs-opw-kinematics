/-
  C01c — C01 closed over ℝ: every joint vector RETURNED by an inverse entry point (after constraint
  filtering, sorting and the final `normalize_near`) reproduces the REQUESTED pose under the
  independent forward kinematics `forward`:

    entry point                          position error                       rotation error
    `inverse` (not 5-DOF)                ≤ DISTANCE_TOLERANCE                 ≤ ANGULAR_TOLERANCE
    `inverse_continuing` (not 5-DOF)     ≤ DISTANCE_TOLERANCE + SING._SHIFT   ≤ ANGULAR_TOLERANCE
      … unshifted solve non-empty        ≤ DISTANCE_TOLERANCE                 ≤ ANGULAR_TOLERANCE
    `inverse_5dof`, `inverse` (5-DOF)    ≤ DISTANCE_TOLERANCE                 (not checked)
    `inverse_continuing_5dof`, …         ≤ DISTANCE_TOLERANCE                 (not checked)

  with `DISTANCE_TOLERANCE ≤ 1e-6`, `ANGULAR_TOLERANCE ≤ 1e-6`,
  `DISTANCE_TOLERANCE + SINGULARITY_SHIFT ≤ 1.125e-6` (`SoundReal.distTol_le`, `angTol_le`,
  `distTol_add_singShift_le`; the bounds in SI units are at the end).

  Beyond `C01.inverseContinuing_sound_partial` two things are proved:
  (a) raw solutions of a SHIFTED pose were cross-checked against the shifted pose only — the shift is
      `SINGULARITY_SHIFT` long and does not touch the rotation, so the triangle inequality gives
      `distTol + singShift` against the requested pose;
  (b) the final `normalize_near` moves every joint by whole turns, which `forward` does not see.

  (b) needs a hypothesis on the sign corrections: `SignsInt p` — every sign correction is an
  INTEGER (weaker than `C02.SignsOk p`, "every sign is ±1", which implies it:
  `SoundReal.SignsInt.of_signsOk`).  It cannot be dropped: with a sign `1/2` a whole turn of the
  joint is half a turn of θ (`SoundReal.mul_half_not_turnEq`).  The entry points without a final
  `normalize_near` (`inverse`, `inverse_5dof`) need no hypothesis on the signs at all.

  All theorems are [R]: the model text of `Kin.lean` evaluated with exact real arithmetic.
  Helper lemmas live in `Lemmas/SoundReal.lean`.
-/
import OpwVerif.Lemmas.Stack
import OpwVerif.Props.C04
import OpwVerif.Props.C06b
namespace Opw.C01c
open Opw Opw.SoundReal

/-! ### Example data: the robot `pEx` of C02 (mixed signs `+ + − − − −`, offsets) and the joint
vector `jEx` of C02b, whose pose the solver is asked for -/

noncomputable def kEx : Opw ℝ := ⟨C02.pEx, none⟩
noncomputable def kEx5 : Opw ℝ := ⟨C06b.pEx5, none⟩

theorem kEx_dof : kEx.p.dof ≠ 5 := by decide
theorem kEx_signs : SignsInt kEx.p := SignsInt.of_signsOk C02b.signsOk_pEx
theorem kEx5_signs : SignsInt kEx5.p := SignsInt.of_signsOk C02b.signsOk_pEx

theorem kEx_mem_inverse : C02b.jEx ∈ kEx.inverse (forward C02.pEx C02b.jEx) :=
  C02b.inverse_roundtrip kEx C02b.signsOk_pEx (by decide) rfl C02b.offsets_pEx C02b.jEx
    C02b.insidePi_jEx C02b.nonSingular_ex

theorem kEx_mem_intern : C02b.jEx ∈ inverseIntern kEx.p (forward C02.pEx C02b.jEx) :=
  ((mem_inverse_of_dof6 kEx_dof).mp kEx_mem_inverse).1

theorem kEx_mem_continuing (prev : J6 ℝ) :
    C02b.jEx.normalizeNear prev ∈ kEx.inverseContinuing (forward C02.pEx C02b.jEx) prev :=
  C04.inverse_subset_inverseContinuing kEx _ prev kEx_dof _ kEx_mem_inverse

theorem kEx5_mem_inverse5dof (j6 : ℝ) :
    ({ C02b.jEx with j6 := j6 } : J6 ℝ) ∈ kEx5.inverse5dof (forward C06b.pEx5 C02b.jEx) j6 :=
  C06b.inverse5dof_roundtrip kEx5 C02b.signsOk_pEx rfl C02b.offsets_pEx C02b.jEx j6
    C06b.insidePi5_jEx C06b.nonSingular_ex5

theorem kEx5_mem_continuing5dof :
    ({ C02b.jEx with j6 := C02b.jEx.j6 } : J6 ℝ) ∈
      kEx5.inverseContinuing5dof (forward C06b.pEx5 C02b.jEx) C02b.jEx :=
  C06b.inverseContinuing5dof_roundtrip kEx5 C02b.signsOk_pEx rfl C02b.offsets_pEx C02b.jEx C02b.jEx
    C06b.insidePi5_jEx
    (by obtain ⟨h1, h2, h3, h4, h5, -⟩ := Corollaries.within_self C02b.jEx; exact ⟨h1, h2, h3, h4, h5⟩)
    C06b.nonSingular_ex5

/-- Every vector RETURNED by `inverse_continuing` (with or without constraints, any `previous`,
including the constraint-centred sentinel) reproduces the REQUESTED pose: position within
`DISTANCE_TOLERANCE + SINGULARITY_SHIFT`, rotation within `ANGULAR_TOLERANCE`. -/
theorem inverseContinuing_reproduces_pose {k : Opw ℝ} {pose : Iso ℝ} {prev s : J6 ℝ}
    (hs : SignsInt k.p) (hd : k.p.dof ≠ 5) (h : s ∈ k.inverseContinuing pose prev) :
    (pose.t.sub (forward k.p s).t).norm ≤ distTol + singShift ∧
      |Quat.angleTo pose.q (forward k.p s).q| ≤ angTol := by
  obtain ⟨s0, rfl, h0⟩ := C01.inverseContinuing_sound_partial hd h
  rw [forward_normalizeNear k.p hs]
  rcases h0 with h0 | ⟨d, hdm, h0, -⟩
  · obtain ⟨h1, h2⟩ := (sound_iff _ _ _).mp h0
    exact ⟨h1.trans (le_add_of_nonneg_right singShift_nonneg), h2⟩
  · exact sound_shift hdm h0

example (prev : J6 ℝ) :
    ((forward C02.pEx C02b.jEx).t.sub (forward kEx.p (C02b.jEx.normalizeNear prev)).t).norm
        ≤ distTol + singShift ∧
      |Quat.angleTo (forward C02.pEx C02b.jEx).q
        (forward kEx.p (C02b.jEx.normalizeNear prev)).q| ≤ angTol :=
  inverseContinuing_reproduces_pose kEx_signs kEx_dof (kEx_mem_continuing prev)

theorem inverseContinuing_reproduces_pose_of_signsOk {k : Opw ℝ} {pose : Iso ℝ} {prev s : J6 ℝ}
    (hs : C02.SignsOk k.p) (hd : k.p.dof ≠ 5) (h : s ∈ k.inverseContinuing pose prev) :
    (pose.t.sub (forward k.p s).t).norm ≤ distTol + singShift ∧
      |Quat.angleTo pose.q (forward k.p s).q| ≤ angTol :=
  inverseContinuing_reproduces_pose (SignsInt.of_signsOk hs) hd h

/-- If `inverse_intern` finds at least one solution for the requested pose itself, the shifted poses
never contribute. -/
theorem inverseContinuing_reproduces_pose_exact {k : Opw ℝ} {pose : Iso ℝ} {prev s : J6 ℝ}
    (hs : SignsInt k.p) (hd : k.p.dof ≠ 5) (hne : inverseIntern k.p pose ≠ [])
    (h : s ∈ k.inverseContinuing pose prev) :
    (pose.t.sub (forward k.p s).t).norm ≤ distTol ∧
      |Quat.angleTo pose.q (forward k.p s).q| ≤ angTol := by
  obtain ⟨s0, rfl, h0 | ⟨he, -⟩⟩ :=
    C01.inverseContinuing_sound_partial_of_add_zero (by simp only [lit0, add_zero, and_self]) hd h
  · rw [forward_normalizeNear k.p hs]
    exact (sound_iff _ _ _).mp h0
  · exact absurd he hne

example (prev : J6 ℝ) :
    ((forward C02.pEx C02b.jEx).t.sub (forward kEx.p (C02b.jEx.normalizeNear prev)).t).norm
        ≤ distTol ∧
      |Quat.angleTo (forward C02.pEx C02b.jEx).q
        (forward kEx.p (C02b.jEx.normalizeNear prev)).q| ≤ angTol :=
  inverseContinuing_reproduces_pose_exact kEx_signs kEx_dof (List.ne_nil_of_mem kEx_mem_intern)
    (kEx_mem_continuing prev)

/-- `inverse`: NO hypothesis on the sign corrections. -/
theorem inverse_reproduces_pose {k : Opw ℝ} {pose : Iso ℝ} {s : J6 ℝ}
    (hd : k.p.dof ≠ 5) (h : s ∈ k.inverse pose) :
    (pose.t.sub (forward k.p s).t).norm ≤ distTol ∧
      |Quat.angleTo pose.q (forward k.p s).q| ≤ angTol :=
  (sound_iff _ _ _).mp (C01.inverse_sound hd h)

example :
    ((forward C02.pEx C02b.jEx).t.sub (forward kEx.p C02b.jEx).t).norm ≤ distTol ∧
      |Quat.angleTo (forward C02.pEx C02b.jEx).q (forward kEx.p C02b.jEx).q| ≤ angTol :=
  inverse_reproduces_pose kEx_dof kEx_mem_inverse

/-- `inverse_continuing_5dof`: the POSITION only. -/
theorem inverseContinuing5dof_reproduces_point {k : Opw ℝ} {pose : Iso ℝ} {prev s : J6 ℝ}
    (hs : SignsInt k.p) (h : s ∈ k.inverseContinuing5dof pose prev) :
    (pose.t.sub (forward k.p s).t).norm ≤ distTol := by
  obtain ⟨s0, -, rfl, h0, -⟩ := C01.inverseContinuing5dof_sound h
  rw [forward_normalizeNear k.p hs]
  exact (sound5_iff _ _ _).mp h0

example : ∃ s ∈ kEx5.inverseContinuing5dof (forward C06b.pEx5 C02b.jEx) C02b.jEx,
    ((forward C06b.pEx5 C02b.jEx).t.sub (forward kEx5.p s).t).norm ≤ distTol :=
  ⟨_, kEx5_mem_continuing5dof, inverseContinuing5dof_reproduces_point kEx5_signs kEx5_mem_continuing5dof⟩

theorem inverseContinuing_reproduces_point {k : Opw ℝ} {pose : Iso ℝ} {prev s : J6 ℝ}
    (hs : SignsInt k.p) (hd : k.p.dof = 5) (h : s ∈ k.inverseContinuing pose prev) :
    (pose.t.sub (forward k.p s).t).norm ≤ distTol := by
  obtain ⟨s0, -, rfl, h0, -⟩ := C01.inverseContinuing_sound5 hd h
  rw [forward_normalizeNear k.p hs]
  exact (sound5_iff _ _ _).mp h0

/-- `inverse_5dof` (any signs): position, and J6 as requested. -/
theorem inverse5dof_reproduces_point {k : Opw ℝ} {pose : Iso ℝ} {j6 : ℝ} {s : J6 ℝ}
    (h : s ∈ k.inverse5dof pose j6) :
    (pose.t.sub (forward k.p s).t).norm ≤ distTol ∧ s.j6 = j6 :=
  ⟨(sound5_iff _ _ _).mp (C01.inverse5dof_sound h).1, (C01.inverse5dof_sound h).2⟩

example :
    ((forward C06b.pEx5 C02b.jEx).t.sub
        (forward kEx5.p ({ C02b.jEx with j6 := 0.7 } : J6 ℝ)).t).norm ≤ distTol ∧
      ({ C02b.jEx with j6 := 0.7 } : J6 ℝ).j6 = 0.7 :=
  inverse5dof_reproduces_point (kEx5_mem_inverse5dof 0.7)

/-- `inverse` of a robot declared 5-DOF: position, and J6 = 0. -/
theorem inverse_reproduces_point {k : Opw ℝ} {pose : Iso ℝ} {s : J6 ℝ}
    (hd : k.p.dof = 5) (h : s ∈ k.inverse pose) :
    (pose.t.sub (forward k.p s).t).norm ≤ distTol ∧ s.j6 = 0 := by
  obtain ⟨h1, h2⟩ := C01.inverse_sound5 hd h
  exact ⟨(sound5_iff _ _ _).mp h1, by rw [h2, lit0]⟩

/-! ### Wrapper stacks without `Parallelogram`

The innermost solver is asked for `k.localPose pose` (wrappers stripped from outside in) and every
vector the stack returns was returned by the innermost solver (`Tool`/`Base`/`Frame` pass the list
through, `KinematicsWithShape` only removes vectors).  The bounds are therefore stated between the
LOCAL pose and the innermost `forward`.  (Against the outer pose the position bound of a stack with
a `Tool`/`Frame` offset `t` grows by `‖t‖ · 2 sin(rotation error / 2)`: the lever arm of the tool
turns a rotation error into a position error; that statement is not attempted here.) -/

theorem stack_inverse_reproduces_pose {k : Kin ℝ} (hk : k.noPara) (hd : k.core.p.dof ≠ 5)
    {pose : Iso ℝ} {s : J6 ℝ} (h : s ∈ k.inverse pose) :
    ((k.localPose pose).t.sub (forward k.core.p s).t).norm ≤ distTol ∧
      |Quat.angleTo (k.localPose pose).q (forward k.core.p s).q| ≤ angTol :=
  inverse_reproduces_pose hd (Kin.noPara_inverse_mem k hk pose s h)

theorem stack_inverseContinuing_reproduces_pose {k : Kin ℝ} (hk : k.noPara)
    (hs : SignsInt k.core.p) (hd : k.core.p.dof ≠ 5)
    {pose : Iso ℝ} {prev s : J6 ℝ} (h : s ∈ k.inverseContinuing pose prev) :
    ((k.localPose pose).t.sub (forward k.core.p s).t).norm ≤ distTol + singShift ∧
      |Quat.angleTo (k.localPose pose).q (forward k.core.p s).q| ≤ angTol :=
  inverseContinuing_reproduces_pose hs hd (Kin.noPara_inverseContinuing_mem k hk pose prev s h)

theorem stack_inverseContinuing_reproduces_pose_exact {k : Kin ℝ} (hk : k.noPara)
    (hs : SignsInt k.core.p) (hd : k.core.p.dof ≠ 5) {pose : Iso ℝ} {prev s : J6 ℝ}
    (hne : inverseIntern k.core.p (k.localPose pose) ≠ [])
    (h : s ∈ k.inverseContinuing pose prev) :
    ((k.localPose pose).t.sub (forward k.core.p s).t).norm ≤ distTol ∧
      |Quat.angleTo (k.localPose pose).q (forward k.core.p s).q| ≤ angTol :=
  inverseContinuing_reproduces_pose_exact hs hd hne
    (Kin.noPara_inverseContinuing_mem k hk pose prev s h)

theorem stack_inverse5dof_reproduces_point {k : Kin ℝ} (hk : k.noPara)
    {pose : Iso ℝ} {j6 : ℝ} {s : J6 ℝ} (h : s ∈ k.inverse5dof pose j6) :
    ((k.localPose pose).t.sub (forward k.core.p s).t).norm ≤ distTol ∧ s.j6 = j6 :=
  inverse5dof_reproduces_point (Kin.noPara_inverse5dof_mem k hk pose j6 s h)

theorem stack_inverseContinuing5dof_reproduces_point {k : Kin ℝ} (hk : k.noPara)
    (hs : SignsInt k.core.p) {pose : Iso ℝ} {prev s : J6 ℝ}
    (h : s ∈ k.inverseContinuing5dof pose prev) :
    ((k.localPose pose).t.sub (forward k.core.p s).t).norm ≤ distTol :=
  inverseContinuing5dof_reproduces_point hs
    (Kin.noPara_inverseContinuing5dof_mem k hk pose prev s h)

/-- a tool 0.2 along z, and collision filtering (nothing collides) on top of `kEx` -/
noncomputable def tcpEx : Iso ℝ := ⟨⟨0, 0, 0.2⟩, ⟨1, 0, 0, 0⟩⟩
noncomputable def stackEx : Kin ℝ := .shape (.tool (.opw kEx) tcpEx) (fun _ => false)

theorem tcpEx_unit : tcpEx.q.normSq = 1 := by
  simp only [tcpEx, Quat.normSq]; norm_num

theorem stackEx_localPose :
    stackEx.localPose ((forward C02.pEx C02b.jEx).mul tcpEx) = forward C02.pEx C02b.jEx :=
  Iso.mul_inv_cancel_right (forward_unit _ _) tcpEx_unit

theorem stackEx_mem (prev : J6 ℝ) :
    C02b.jEx.normalizeNear prev ∈
      stackEx.inverseContinuing ((forward C02.pEx C02b.jEx).mul tcpEx) prev := by
  show _ ∈ removeCollisions (fun _ => false)
    (kEx.inverseContinuing (stackEx.localPose ((forward C02.pEx C02b.jEx).mul tcpEx)) prev)
  rw [stackEx_localPose]
  exact List.mem_filter.mpr ⟨kEx_mem_continuing prev, rfl⟩

example (prev : J6 ℝ) :
    ((stackEx.localPose ((forward C02.pEx C02b.jEx).mul tcpEx)).t.sub
        (forward stackEx.core.p (C02b.jEx.normalizeNear prev)).t).norm ≤ distTol + singShift ∧
      |Quat.angleTo (stackEx.localPose ((forward C02.pEx C02b.jEx).mul tcpEx)).q
        (forward stackEx.core.p (C02b.jEx.normalizeNear prev)).q| ≤ angTol :=
  stack_inverseContinuing_reproduces_pose (k := stackEx) trivial kEx_signs kEx_dof (stackEx_mem prev)

theorem singShift_eq : (singShift : ℝ) = distTol / 8 := singShift_eq_distTol_div
/-- the bounds are not vacuous: the tolerances are positive -/
theorem distTol_gt : (999999999 : ℝ) / 10 ^ 15 < distTol := by
  rw [distTol_eq]; norm_num

/-- Property C01 for `inverse_continuing` in SI units: 1.125 µm and 1 µrad. -/
theorem inverseContinuing_reproduces_pose_decimal {k : Opw ℝ} {pose : Iso ℝ} {prev s : J6 ℝ}
    (hs : SignsInt k.p) (hd : k.p.dof ≠ 5) (h : s ∈ k.inverseContinuing pose prev) :
    (pose.t.sub (forward k.p s).t).norm ≤ 1125 / 10 ^ 9 ∧
      |Quat.angleTo pose.q (forward k.p s).q| ≤ 1 / 10 ^ 6 := by
  obtain ⟨h1, h2⟩ := inverseContinuing_reproduces_pose hs hd h
  exact ⟨h1.trans distTol_add_singShift_le, h2.trans angTol_le⟩

/-- Property C01 for `inverse` in SI units: 1 µm and 1 µrad. -/
theorem inverse_reproduces_pose_decimal {k : Opw ℝ} {pose : Iso ℝ} {s : J6 ℝ}
    (hd : k.p.dof ≠ 5) (h : s ∈ k.inverse pose) :
    (pose.t.sub (forward k.p s).t).norm ≤ 1 / 10 ^ 6 ∧
      |Quat.angleTo pose.q (forward k.p s).q| ≤ 1 / 10 ^ 6 := by
  obtain ⟨h1, h2⟩ := inverse_reproduces_pose hd h
  exact ⟨h1.trans distTol_le, h2.trans angTol_le⟩

/-- Property C01 for the 5-DOF continuing entry point in SI units: 1 µm. -/
theorem inverseContinuing5dof_reproduces_point_decimal {k : Opw ℝ} {pose : Iso ℝ} {prev s : J6 ℝ}
    (hs : SignsInt k.p) (h : s ∈ k.inverseContinuing5dof pose prev) :
    (pose.t.sub (forward k.p s).t).norm ≤ 1 / 10 ^ 6 :=
  (inverseContinuing5dof_reproduces_point hs h).trans distTol_le

example (prev : J6 ℝ) :
    ((forward C02.pEx C02b.jEx).t.sub (forward kEx.p (C02b.jEx.normalizeNear prev)).t).norm
        ≤ 1125 / 10 ^ 9 ∧
      |Quat.angleTo (forward C02.pEx C02b.jEx).q
        (forward kEx.p (C02b.jEx.normalizeNear prev)).q| ≤ 1 / 10 ^ 6 :=
  inverseContinuing_reproduces_pose_decimal kEx_signs kEx_dof (kEx_mem_continuing prev)

end Opw.C01c
