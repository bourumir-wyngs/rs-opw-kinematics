/-
  C01 — Every inverse-kinematics solution returned reproduces the requested pose: the run-time
  forward-kinematics cross-check (`compare_poses` / `compare_xyz_only` against `DISTANCE_TOLERANCE`,
  `ANGULAR_TOLERANCE`; the predicates `Sound` / `Sound5` of `Lemmas/Sound.lean`) is on every path that
  produces a returned vector.

  All theorems are generic in the number type with NO assumption on the arithmetic, so they hold of
  the IEEE `Float` reading of the model itself.

  The `Float` `example`s take the hypothesis of the theorem they instantiate as their own hypothesis:
  list membership over `Float` cannot be evaluated by the kernel, so they are instantiation tests of
  the generic statements at the `Float` objects of `Lemmas/Sound.lean`, not computations.
-/
import OpwVerif.Lemmas.Sound
namespace Opw.C01
variable {R : Type} [OpwNum R]

/-- Every vector `inverse_intern` returns passed the cross-check against the requested pose and is
the normalisation of one of the eight closed-form candidates, all of whose components were finite. -/
theorem inverseIntern_sound {p : Params R} {pose : Iso R} {s : J6 R}
    (h : s ∈ inverseIntern p pose) :
    Sound p pose s ∧
      ∃ t ∈ thetaCandidates p pose,
        (jointsOf p t).allFinite = true ∧ s = (jointsOf p t).map normPi := by
  obtain ⟨t, ht, hf, hs, hsound⟩ := mem_inverseIntern.mp h
  exact ⟨hsound, t, ht, hf, hs⟩

example {s : J6 Float} (h : s ∈ inverseIntern Ex.p6 Ex.pose) : Sound Ex.p6 Ex.pose s :=
  (inverseIntern_sound h).1

/-- Every vector `inverse_intern_5_dof` returns passed the position cross-check and carries the
requested J6 unchanged. -/
theorem inverseIntern5_sound {p : Params R} {pose : Iso R} {j6 : R} {s : J6 R}
    (h : s ∈ inverseIntern5 p pose j6) : Sound5 p pose s ∧ s.j6 = j6 := by
  obtain ⟨_, _, _, rfl, hs⟩ := mem_inverseIntern5.mp h
  exact ⟨hs, rfl⟩

example {s : J6 Float} (h : s ∈ inverseIntern5 Ex.p5 Ex.pose 0.25) :
    Sound5 Ex.p5 Ex.pose s ∧ s.j6 = 0.25 :=
  inverseIntern5_sound h

/-- `inverse` of a robot not declared 5-DOF: every answer passed the run-time `compare_poses` check against the requested pose -/
theorem inverse_sound {k : Opw R} {pose : Iso R} {s : J6 R}
    (hd : k.p.dof ≠ 5) (h : s ∈ k.inverse pose) : Sound k.p pose s :=
  sound_of_mem_inverseIntern ((mem_inverse_of_dof6 hd).mp h).1

example {s : J6 Float} (h : s ∈ Ex.k6c.inverse Ex.pose) : Sound Ex.k6c.p Ex.pose s :=
  inverse_sound Ex.p6_dof h

/-- `inverse_5dof`: every answer passed the position check and carries the caller's J6 -/
theorem inverse5dof_sound {k : Opw R} {pose : Iso R} {j6 : R} {s : J6 R}
    (h : s ∈ k.inverse5dof pose j6) : Sound5 k.p pose s ∧ s.j6 = j6 :=
  inverseIntern5_sound (mem_inverse5dof.mp h).1

example {s : J6 Float} (h : s ∈ Ex.k6c.inverse5dof Ex.pose 0.25) :
    Sound5 Ex.k6c.p Ex.pose s ∧ s.j6 = 0.25 :=
  inverse5dof_sound h

theorem inverse_sound5 {k : Opw R} {pose : Iso R} {s : J6 R}
    (hd : k.p.dof = 5) (h : s ∈ k.inverse pose) : Sound5 k.p pose s ∧ s.j6 = 0 :=
  inverse5dof_sound (Opw.inverse_of_dof5 hd pose ▸ h)

example {s : J6 Float} (h : s ∈ Ex.k5c.inverse Ex.pose) :
    Sound5 Ex.k5c.p Ex.pose s ∧ s.j6 = 0 :=
  inverse_sound5 Ex.p5_dof h

/-- Origin of every vector `inverse_continuing` returns (robot not declared 5-DOF): `normalize_near`
of an `s0` that passed the cross-check against the REQUESTED pose (the recovered singular candidate),
or of a raw solution of the first pose in the shift list `[+0, +x, +y, +z]` whose raw solution list is
non-empty, which was cross-checked against the SHIFTED pose only. -/
theorem inverseContinuing_origin {k : Opw R} {pose : Iso R} {prev s : J6 R}
    (hd : k.p.dof ≠ 5) (h : s ∈ k.inverseContinuing pose prev) :
    ∃ s0, s = s0.normalizeNear (k.reference prev) ∧
      (Sound k.p pose s0 ∨
        ∃ pre d post, (shifts : List (V3 R)) = pre ++ d :: post ∧
          (∀ d' ∈ pre, inverseIntern k.p (shiftPose pose d') = []) ∧
          s0 ∈ inverseIntern k.p (shiftPose pose d)) := by
  rw [Opw.inverseContinuing_of_dof6 hd] at h
  obtain ⟨⟨s0, hs0, rfl⟩, -⟩ := mem_inverseContinuing6.mp h
  refine ⟨s0, rfl, ?_⟩
  rcases mem_shiftLoop _ _ _ hs0 with h | h | ⟨_, h⟩
  · cases h
  · exact Or.inl h.1.1
  · exact Or.inr h

/-- `inverse_continuing`, robot not declared 5-DOF: every returned vector is `normalize_near` of an
`s0` that passed the cross-check against the requested pose or against one of the four shifted poses,
the latter for a non-zero shift only if the solve for `pose + 0` came back empty.  (The zero shift is
`shiftPose pose ⟨0,0,0⟩`, not syntactically `pose`: `-0.0 + 0.0 = +0.0` in `Float`;
`inverseContinuing_sound_partial_of_add_zero` has the form with `pose` itself.)

FULL: `k.p.dof ≠ 5 → s ∈ k.inverseContinuing pose prev →
         ∃ s0, s = s0.normalizeNear (k.reference prev) ∧ Sound k.p pose s0`
(every returned vector, before the final `normalize_near`, reproduces the REQUESTED pose).
Gap: `shiftStep` appends the raw `inverse_intern` solutions of a shifted pose while the solution
list is empty, which also happens in the iterations with a non-zero shift when the unshifted solve is
empty; these raw solutions were cross-checked against the shifted pose (`DISTANCE_TOLERANCE` around
a point `SINGULARITY_SHIFT` away), not against the requested one, and nothing re-checks them.  Only
the recovered singular candidate is checked against the requested pose.  The FULL statement is
therefore not a control-structure fact of the code (and the final `normalize_near` is outside the
check in any case). -/
theorem inverseContinuing_sound_partial {k : Opw R} {pose : Iso R} {prev s : J6 R}
    (hd : k.p.dof ≠ 5) (h : s ∈ k.inverseContinuing pose prev) :
    ∃ s0, s = s0.normalizeNear (k.reference prev) ∧
      (Sound k.p pose s0 ∨
        ∃ d ∈ (shifts : List (V3 R)), Sound k.p (shiftPose pose d) s0 ∧
          (d = ⟨0, 0, 0⟩ ∨ inverseIntern k.p (shiftPose pose ⟨0, 0, 0⟩) = [])) := by
  obtain ⟨s0, hs, h | ⟨pre, d, post, hds, hpre, hmem⟩⟩ := inverseContinuing_origin hd h
  · exact ⟨s0, hs, Or.inl h⟩
  · refine ⟨s0, hs, Or.inr ⟨d, ?_, sound_of_mem_inverseIntern hmem, ?_⟩⟩
    · rw [hds]; simp
    · cases pre with
      | nil =>
        left
        simp only [shifts, List.nil_append, List.cons.injEq] at hds
        exact hds.1.symm
      | cons a pre' =>
        right
        simp only [shifts, List.cons_append, List.cons.injEq] at hds
        rw [hds.1]
        exact hpre a (List.mem_cons_self ..)

example {s : J6 Float} (h : s ∈ Ex.k6c.inverseContinuing Ex.pose Ex.prev) :
    ∃ s0, s = s0.normalizeNear (Ex.k6c.reference Ex.prev) ∧
      (Sound Ex.k6c.p Ex.pose s0 ∨
        ∃ d ∈ (shifts : List (V3 Float)), Sound Ex.k6c.p (shiftPose Ex.pose d) s0 ∧
          (d = ⟨0, 0, 0⟩ ∨ inverseIntern Ex.k6c.p (shiftPose Ex.pose ⟨0, 0, 0⟩) = [])) :=
  inverseContinuing_sound_partial Ex.p6_dof h

/-- The same with `pose` itself, for poses whose translation is unchanged by adding zero (every real
pose; every `Float` pose without a `-0.0` translation component). -/
theorem inverseContinuing_sound_partial_of_add_zero {k : Opw R} {pose : Iso R} {prev s : J6 R}
    (hz : pose.t.x + 0 = pose.t.x ∧ pose.t.y + 0 = pose.t.y ∧ pose.t.z + 0 = pose.t.z)
    (hd : k.p.dof ≠ 5) (h : s ∈ k.inverseContinuing pose prev) :
    ∃ s0, s = s0.normalizeNear (k.reference prev) ∧
      (Sound k.p pose s0 ∨
        (inverseIntern k.p pose = [] ∧
          ∃ d ∈ (shifts : List (V3 R)),
            Sound k.p ⟨⟨pose.t.x + d.x, pose.t.y + d.y, pose.t.z + d.z⟩, pose.q⟩ s0)) := by
  have hp : shiftPose pose ⟨0, 0, 0⟩ = pose := by
    obtain ⟨⟨x, y, z⟩, q⟩ := pose
    simp only [shiftPose] at hz ⊢
    rw [hz.1, hz.2.1, hz.2.2]
  obtain ⟨s0, hs, h | ⟨d, hd', hsd, rfl | he⟩⟩ := inverseContinuing_sound_partial hd h
  · exact ⟨s0, hs, Or.inl h⟩
  · rw [hp] at hsd; exact ⟨s0, hs, Or.inl hsd⟩
  · rw [hp] at he; exact ⟨s0, hs, Or.inr ⟨he, d, hd', hsd⟩⟩

/-- Every vector `inverse_continuing_5dof` returns is `normalize_near` of an answer `s0` of
`inverse_intern_5_dof`; the position check and `j6 = previous[5]` hold of `s0`, before that
normalisation. -/
theorem inverseContinuing5dof_sound {k : Opw R} {pose : Iso R} {prev s : J6 R}
    (h : s ∈ k.inverseContinuing5dof pose prev) :
    ∃ s0 ∈ inverseIntern5 k.p pose prev.j6,
      s = s0.normalizeNear (k.reference prev) ∧ Sound5 k.p pose s0 ∧ s0.j6 = prev.j6 := by
  obtain ⟨⟨s0, hs0, rfl⟩, -⟩ := mem_inverseContinuing5dof.mp h
  exact ⟨s0, hs0, rfl, inverseIntern5_sound hs0⟩

example {s : J6 Float} (h : s ∈ Ex.k5c.inverseContinuing5dof Ex.pose Ex.prev) :
    ∃ s0 ∈ inverseIntern5 Ex.k5c.p Ex.pose Ex.prev.j6,
      s = s0.normalizeNear (Ex.k5c.reference Ex.prev) ∧ Sound5 Ex.k5c.p Ex.pose s0 ∧
        s0.j6 = Ex.prev.j6 :=
  inverseContinuing5dof_sound h

theorem inverseContinuing_sound5 {k : Opw R} {pose : Iso R} {prev s : J6 R}
    (hd : k.p.dof = 5) (h : s ∈ k.inverseContinuing pose prev) :
    ∃ s0 ∈ inverseIntern5 k.p pose prev.j6,
      s = s0.normalizeNear (k.reference prev) ∧ Sound5 k.p pose s0 ∧ s0.j6 = prev.j6 :=
  inverseContinuing5dof_sound (Opw.inverseContinuing_of_dof5 hd pose prev ▸ h)

/-- unreachable poses give the empty list -/
theorem empty_of_unreachable {p : Params R} {pose : Iso R}
    (h : ∀ s, ¬ Sound p pose s) : inverseIntern p pose = [] :=
  List.eq_nil_iff_forall_not_mem.mpr fun s hs => h s (sound_of_mem_inverseIntern hs)

theorem inverse_empty_of_unreachable {k : Opw R} {pose : Iso R}
    (hd : k.p.dof ≠ 5) (h : ∀ s, ¬ Sound k.p pose s) : k.inverse pose = [] :=
  List.eq_nil_iff_forall_not_mem.mpr fun s hs => h s (inverse_sound hd hs)

theorem inverse5dof_empty_of_unreachable {k : Opw R} {pose : Iso R} {j6 : R}
    (h : ∀ s, ¬ Sound5 k.p pose s) : k.inverse5dof pose j6 = [] :=
  List.eq_nil_iff_forall_not_mem.mpr fun s hs => h s (inverse5dof_sound hs).1

example (h : ∀ s, ¬ Sound Ex.k6c.p Ex.pose s) : Ex.k6c.inverse Ex.pose = [] :=
  inverse_empty_of_unreachable Ex.p6_dof h

/-- A stack of `Tool` / `Base` / `Frame` wrappers answers with exactly what the innermost solver
answers for the pose with the wrappers stripped (`pose * tool⁻¹`, `base⁻¹ * pose`, `pose * frame⁻¹`,
from outside in); likewise the other three entry points below. -/
theorem stack_inverse_eq {k : Kin R} (hk : k.plain) (pose : Iso R) :
    k.inverse pose = k.core.inverse (k.localPose pose) :=
  (Kin.inverse_eq_lift k pose).trans (Kin.lift_plain k hk pose)

theorem stack_inverseContinuing_eq {k : Kin R} (hk : k.plain) (pose : Iso R) (prev : J6 R) :
    k.inverseContinuing pose prev = k.core.inverseContinuing (k.localPose pose) prev :=
  (Kin.inverseContinuing_eq_lift k pose prev).trans (Kin.lift_plain k hk pose)

theorem stack_inverse5dof_eq {k : Kin R} (hk : k.plain) (pose : Iso R) (j6 : R) :
    k.inverse5dof pose j6 = k.core.inverse5dof (k.localPose pose) j6 :=
  (Kin.inverse5dof_eq_lift k pose j6).trans (Kin.lift_plain k hk pose)

theorem stack_inverseContinuing5dof_eq {k : Kin R} (hk : k.plain) (pose : Iso R) (prev : J6 R) :
    k.inverseContinuing5dof pose prev = k.core.inverseContinuing5dof (k.localPose pose) prev :=
  (Kin.inverseContinuing5dof_eq_lift k pose prev).trans (Kin.lift_plain k hk pose)

theorem stack_inverse_mem {k : Kin R} (hk : k.plain) {pose : Iso R} {s : J6 R}
    (h : s ∈ k.inverse pose) : s ∈ k.core.inverse (k.localPose pose) := by
  rwa [stack_inverse_eq hk] at h

/-- Stacks that may also contain collision filtering but no `Parallelogram`: every returned vector
passed the cross-check of the innermost solver for the LOCAL pose.  (That `forward` of the stack then
reproduces the outer pose is isometry algebra over ℝ: `C09.stack_maps_back`.) -/
theorem stack_inverse_sound {k : Kin R} (hk : k.noPara) (hd : k.core.p.dof ≠ 5)
    {pose : Iso R} {s : J6 R} (h : s ∈ k.inverse pose) :
    Sound k.core.p (k.localPose pose) s :=
  inverse_sound hd (Kin.noPara_inverse_mem k hk pose s h)

theorem stack_inverse5dof_sound {k : Kin R} (hk : k.noPara)
    {pose : Iso R} {j6 : R} {s : J6 R} (h : s ∈ k.inverse5dof pose j6) :
    Sound5 k.core.p (k.localPose pose) s ∧ s.j6 = j6 :=
  inverse5dof_sound (Kin.noPara_inverse5dof_mem k hk pose j6 s h)

example : Ex.stack6.inverse Ex.pose =
    Ex.k6c.inverse (((Ex.pose.mul Ex.tcp.inv) |> (Ex.tcp.inv.mul ·)).mul Ex.tcp.inv) :=
  stack_inverse_eq Ex.stack6_plain Ex.pose

example {s : J6 Float} (h : s ∈ Ex.stack6s.inverse Ex.pose) :
    Sound Ex.p6 (Ex.stack6s.localPose Ex.pose) s :=
  stack_inverse_sound Ex.stack6s_noPara Ex.p6_dof h

end Opw.C01
