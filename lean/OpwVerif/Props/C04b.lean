/-
  C04b — "If the previous joints already realise the pose and are not wrist-singular they come back
  as the first solution, so a trajectory followed step by step never switches branch."

  All theorems are [R]: the model text of `Kin.lean` evaluated with exact real arithmetic.
  Helper lemmas live in `Lemmas/Corollaries.lean`, `Lemmas/IkComplete.lean`, `Lemmas/Nearest.lean`.

  What is proved, precisely.
  * `prev_first_unconditional` — the one-step statement with `prev` = the point itself: no membership
    hypothesis is left, it is discharged by `IkComplete.ik_roundtrip_intern` (`Lemmas/Corollaries.lean`;
    `Props/C02b.lean` is imported for the example robot only).
  * `first_is_nearest` — sorting by distance to previous: the first answer is a nearest answer.
  * `track_step` — the realistic one-step statement, `prev ≠ q` allowed: the target `q` is IN the
    answer list (completeness + `normalize_near` leaves it alone because every joint moved by at
    most `π`), and it is FIRST provided every other answer is strictly farther from `prev`
    (hypothesis `sep`, the branch-separation condition).  `sep` is a hypothesis, NOT a theorem: for
    a large step another IK branch can be nearer to `prev`, and then the solver does switch branch.
    By `first_is_nearest` the non-strict form of `sep` is also necessary.
  * `track_trajectory` — induction over the list of trajectory points under per-step hypotheses.
-/
import OpwVerif.Lemmas.Corollaries
import OpwVerif.Props.C02b
import OpwVerif.Props.C04
namespace Opw.C04b
open Opw Opw.Wrist Opw.C02 Opw.IkComplete Opw.Corollaries

/-- [R] `inverse_continuing`, asked for the pose of `prev` with `prev` as previous position, returns
`prev` first: `hsol` of `C04.prev_first_of_solution` is discharged by `IkComplete.ik_roundtrip_intern`
(the offset bound: `Nearest.raw_add_offset_le`). -/
theorem prev_first_unconditional (k : Opw ℝ) (hs : SignsOk k.p) (hdof : k.p.dof ≠ 5)
    (hmode : k.cons = none ∨ ∃ c, k.cons = some c ∧ c.sortingWeight = byPrev) (prev : J6 ℝ)
    (hcomp : k.compliant prev = true) (hin : InsidePi prev)
    (hoff : Nearest.absLe k.p.offsets 100000) (hns : NonSingular k.p (thetaOf k.p prev)) :
    (k.inverseContinuing (forward k.p prev) prev).head? = some prev :=
  C04.prev_first_of_solution k _ prev hdof hmode hcomp
    (ik_roundtrip_intern k.p hs hoff prev hin hns)

/-- non-vacuity: the robot `pEx` of C02 (mixed signs, offsets, `a2 ≠ 0`), no constraints, the joint
vector `jEx` of C02b -/
example : ((⟨pEx, none⟩ : Opw ℝ).inverseContinuing (forward pEx C02b.jEx) C02b.jEx).head? =
    some C02b.jEx :=
  prev_first_unconditional ⟨pEx, none⟩ C02b.signsOk_pEx (by decide) (Or.inl rfl) C02b.jEx
    (Nearest.compliant_of_none _ _ rfl) C02b.insidePi_jEx C02b.offsets_pEx C02b.nonSingular_ex

theorem first_is_cheapest (k : Opw ℝ) (pose : Iso ℝ) (prev h : J6 ℝ)
    (hh : (k.inverseContinuing pose prev).head? = some h) (s : J6 ℝ)
    (hs : s ∈ k.inverseContinuing pose prev) : k.sortCost prev h ≤ k.sortCost prev s :=
  head_le_of_sorted (k.sortCost prev) _ (C04.inverseContinuing_sorted k pose prev) hh hs

/-- [R] sorting by distance to previous: the first answer is a nearest answer -/
theorem first_is_nearest (k : Opw ℝ) (pose : Iso ℝ) (prev h : J6 ℝ)
    (hmode : k.cons = none ∨ ∃ c, k.cons = some c ∧ c.sortingWeight = byPrev)
    (hh : (k.inverseContinuing pose prev).head? = some h) (s : J6 ℝ)
    (hs : s ∈ k.inverseContinuing pose prev) : calculateDistance h prev ≤ calculateDistance s prev := by
  have := first_is_cheapest k pose prev h hh s hs
  rwa [C04.sortCost_eq_distance k hmode, C04.sortCost_eq_distance k hmode] at this

/-- [R] The target `q` itself (not merely a 2π-representative) is among the answers, for any sorting
weight. -/
theorem target_mem (k : Opw ℝ) (hs : SignsOk k.p) (hdof : k.p.dof ≠ 5) (prev q : J6 ℝ)
    (hcomp : k.compliant q = true) (hin : InsidePi q) (hoff : Nearest.absLe k.p.offsets 100000)
    (hns : NonSingular k.p (thetaOf k.p q)) (hclose : Nearest.within q prev Real.pi) :
    q ∈ k.inverseContinuing (forward k.p q) prev := by
  have hq := ik_roundtrip_intern k.p hs hoff q hin hns
  have h := (C04.inverseContinuing_superset k _ prev hdof q hq).2
  rw [J6_normalizeNear_of_close q prev hin hclose] at h
  exact h hcomp

/-- [R] One step with `prev ≠ q` allowed.  `hsep`, the branch-separation condition (every OTHER
returned answer is strictly farther from `prev` than `q`), is a hypothesis, not a theorem. -/
theorem track_step (k : Opw ℝ) (hs : SignsOk k.p) (hdof : k.p.dof ≠ 5)
    (hmode : k.cons = none ∨ ∃ c, k.cons = some c ∧ c.sortingWeight = byPrev)
    (hoff : Nearest.absLe k.p.offsets 100000) (prev q : J6 ℝ)
    (hcomp : k.compliant q = true) (hin : InsidePi q) (hns : NonSingular k.p (thetaOf k.p q))
    (hclose : Nearest.within q prev Real.pi)
    (hsep : ∀ s ∈ k.inverseContinuing (forward k.p q) prev, s ≠ q →
      calculateDistance q prev < calculateDistance s prev) :
    (k.inverseContinuing (forward k.p q) prev).head? = some q := by
  apply head_eq_of_sorted_of_sep (k.sortCost prev) _ (C04.inverseContinuing_sorted k _ prev)
    (target_mem k hs hdof prev q hcomp hin hoff hns hclose)
  intro s hs' hne
  rw [C04.sortCost_eq_distance k hmode, C04.sortCost_eq_distance k hmode]
  exact hsep s hs' hne

/-- [R] `hsep` is (up to ties) necessary: if `q` comes back first, no answer is strictly nearer -/
theorem sep_necessary (k : Opw ℝ) (pose : Iso ℝ) (prev q : J6 ℝ)
    (hmode : k.cons = none ∨ ∃ c, k.cons = some c ∧ c.sortingWeight = byPrev)
    (hh : (k.inverseContinuing pose prev).head? = some q) :
    ∀ s ∈ k.inverseContinuing pose prev, calculateDistance q prev ≤ calculateDistance s prev :=
  fun s hs => first_is_nearest k pose prev q hmode hh s hs

/-- the per-step hypotheses of `track_step`, for the step from `prev` to `q` -/
structure StepOk (k : Opw ℝ) (prev q : J6 ℝ) : Prop where
  compliant : k.compliant q = true
  inside : InsidePi q
  nonsingular : NonSingular k.p (thetaOf k.p q)
  close : Nearest.within q prev Real.pi
  /-- branch separation: every other returned answer is strictly farther from `prev` -/
  sep : ∀ s ∈ k.inverseContinuing (forward k.p q) prev, s ≠ q →
    calculateDistance q prev < calculateDistance s prev

/-- the per-step hypotheses along a whole trajectory: from `q0` to `qs[0]`, from `qs[0]` to `qs[1]`, … -/
def TrackOk (k : Opw ℝ) : J6 ℝ → List (J6 ℝ) → Prop
  | _, [] => True
  | prev, q :: qs => StepOk k prev q ∧ TrackOk k q qs

/-- Following a trajectory: for each point `q` call `inverse_continuing(forward(q), prev)` with
`prev` = the first answer of the previous call (the start vector for the first call; if a call
returns nothing the old `prev` is kept) and record the first answer. -/
noncomputable def follow (k : Opw ℝ) : J6 ℝ → List (J6 ℝ) → List (Option (J6 ℝ))
  | _, [] => []
  | prev, q :: qs =>
    let a := (k.inverseContinuing (forward k.p q) prev).head?
    a :: follow k (a.getD prev) qs

theorem follow_cons (k : Opw ℝ) (prev q : J6 ℝ) (qs : List (J6 ℝ)) :
    follow k prev (q :: qs) =
      (k.inverseContinuing (forward k.p q) prev).head? ::
        follow k (((k.inverseContinuing (forward k.p q) prev).head?).getD prev) qs := rfl

/-- [R] If every step of the trajectory `q0, qs[0], qs[1], …` satisfies `StepOk`, following the
trajectory returns exactly the trajectory: the solver never switches branch. -/
theorem track_trajectory (k : Opw ℝ) (hs : SignsOk k.p) (hdof : k.p.dof ≠ 5)
    (hmode : k.cons = none ∨ ∃ c, k.cons = some c ∧ c.sortingWeight = byPrev)
    (hoff : Nearest.absLe k.p.offsets 100000) :
    ∀ (qs : List (J6 ℝ)) (q0 : J6 ℝ), TrackOk k q0 qs → follow k q0 qs = qs.map some := by
  intro qs
  induction qs with
  | nil => intro q0 _; rfl
  | cons q qs ih =>
    intro q0 h
    obtain ⟨h1, h2⟩ := h
    have e := track_step k hs hdof hmode hoff q0 q h1.compliant h1.inside h1.nonsingular h1.close h1.sep
    rw [follow_cons, e, Option.getD_some, ih q h2]
    rfl

theorem track_trajectory_get (k : Opw ℝ) (hs : SignsOk k.p) (hdof : k.p.dof ≠ 5)
    (hmode : k.cons = none ∨ ∃ c, k.cons = some c ∧ c.sortingWeight = byPrev)
    (hoff : Nearest.absLe k.p.offsets 100000) (qs : List (J6 ℝ)) (q0 : J6 ℝ) (h : TrackOk k q0 qs)
    (i : ℕ) (hi : i < qs.length) : (follow k q0 qs)[i]? = some (some qs[i]) := by
  rw [track_trajectory k hs hdof hmode hoff qs q0 h, List.getElem?_map, List.getElem?_eq_getElem hi]
  rfl

/-- [R] a step that does not move satisfies `StepOk` with NO separation hypothesis: every other
answer is at a positive distance.  (So `prev_first_unconditional` is the stationary case of
`track_step`.) -/
theorem stepOk_self (k : Opw ℝ) (q : J6 ℝ) (hcomp : k.compliant q = true) (hin : InsidePi q)
    (hns : NonSingular k.p (thetaOf k.p q)) : StepOk k q q := by
  refine ⟨hcomp, hin, hns, within_self q, ?_⟩
  intro s _ hne
  rw [Nearest.calculateDistance_self]
  apply lt_of_le_of_ne (Nearest.calculateDistance_nonneg s q)
  intro h0
  exact hne ((Nearest.calculateDistance_eq_zero_iff s q).mp h0.symm)

/-- non-vacuity: the hypotheses of `track_trajectory` are jointly satisfiable (robot `pEx`, a
trajectory that dwells at `jEx`), and its conclusion for that instance -/
example : TrackOk ⟨pEx, none⟩ C02b.jEx [C02b.jEx, C02b.jEx] :=
  have h := stepOk_self ⟨pEx, none⟩ C02b.jEx (Nearest.compliant_of_none _ _ rfl) C02b.insidePi_jEx
    C02b.nonSingular_ex
  ⟨h, h, trivial⟩

example : follow ⟨pEx, none⟩ C02b.jEx [C02b.jEx, C02b.jEx] = [some C02b.jEx, some C02b.jEx] :=
  have h := stepOk_self ⟨pEx, none⟩ C02b.jEx (Nearest.compliant_of_none _ _ rfl) C02b.insidePi_jEx
    C02b.nonSingular_ex
  track_trajectory ⟨pEx, none⟩ C02b.signsOk_pEx (by decide) (Or.inl rfl) C02b.offsets_pEx _ _
    ⟨h, h, trivial⟩

end Opw.C04b
