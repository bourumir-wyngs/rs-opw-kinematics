/-
  Source tie for the constraint object (C07, C08, C18 and every property that attaches limits to a solver):
  `Constraints::new` and `Constraints::update_range`, translated from the current text of constraints.rs at the level
  "which expression does each field of the object come from" (`Generated/SrcCons.lean`), produce the object the model
  builds with `Constraints.mk'` — in particular an object that went through `update_range` carries NO state of its
  previous limits (history independence: centres and tolerances are computed from the NEW limits).  Also tied here:
  `Constraints::from_degrees` and the per-joint sampler nested in `random_angles`.  Generic in the number type.
-/
import OpwVerif.Generated.SrcCons
import OpwVerif.Misc
namespace Opw.TieCons
open Opw
variable {R : Type} [OpwNum R]

/-- [G] `Constraints::new(from, to, w)` is the model's constructor -/
theorem new_is_source (f t : J6 R) (w : R) : SrcCons.newSrc f t w = Constraints.mk' f t w := rfl

/-- [G] after `update_range(from, to)` the object is the one `new(from, to, old weight)` would have built, whatever limits it
had before -/
theorem updateRange_is_fresh (c : Constraints R) (f t : J6 R) :
    SrcCons.updateRangeSrc c f t = Constraints.mk' f t c.sortingWeight := rfl

/-- [G] history independence: two objects with the same sorting weight are identical after the same `update_range` -/
theorem updateRange_history_independent (c c' : Constraints R) (f t : J6 R) (hw : c.sortingWeight = c'.sortingWeight) :
    SrcCons.updateRangeSrc c f t = SrcCons.updateRangeSrc c' f t := by
  rw [updateRange_is_fresh, updateRange_is_fresh, hw]

/-- [G] in particular a sequence of updates ends in the object of the last one -/
theorem updateRange_twice (c : Constraints R) (f1 t1 f2 t2 : J6 R) :
    SrcCons.updateRangeSrc (SrcCons.updateRangeSrc c f1 t1) f2 t2 = SrcCons.updateRangeSrc c f2 t2 := rfl

/-- [G] `Constraints::from_degrees`: the twelve limits converted to radians, nothing else
converted (the sorting weight is a pure number), centres and tolerances computed from the converted limits — the object
`new` builds from the converted limits -/
theorem fromDegrees_is_source (lo hi : J6 R) (w : R) :
    SrcCons.fromDegreesSrc lo hi w = Constraints.mk' (lo.map toRadians) (hi.map toRadians) w := rfl

/-- [G] the per-joint sampler nested in `random_angles`, translated with the generator's draw as a
parameter (`gen_range(0.0..len)` ↦ `u`), is the model's `randomAngle`; the translator also checks that joint `i` is drawn from
`(from[i], to[i])` for i = 0..5.  The C18 theorems (every draw `0 ≤ u < sampleSpan` gives an accepted angle) are about it -/
theorem randomAngle_is_source (f t u : R) : SrcCons.randomAngleSrc f t u = randomAngle f t u := by
  unfold SrcCons.randomAngleSrc randomAngle sampleSpan
  by_cases h : f < t
  · simp [h]
  · simp only [h, if_false]

end Opw.TieCons
