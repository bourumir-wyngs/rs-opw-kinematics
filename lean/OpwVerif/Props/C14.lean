/-
  C14 — Neighbour generation for graph search (`non_colliding_offsets` in `collisions.rs`): the
  configurations offered are exactly the up-to-twelve single-joint replacements (joint k set to
  `from[k]`, then to `to[k]`, k = 0..5) that are within limits and that the FULL collision check
  reports free — although the code runs a cheaper check that skips the unchanged links before joint k.
  Kind [A] throughout: every scene function `sceneAt` (any environment, any oracles), every safety
  table, every `choice`; generic number type.
-/
import OpwVerif.Lemmas.Coll
namespace Opw.C14
open Opw.Coll

variable {R : Type} [OpwNum R]

/-- "within limits": `constraints.compliant` when limits are present, else always -/
def compliantOpt (cons : Option (Constraints R)) (c : J6 R) : Bool :=
  match cons with
  | some cc => cc.compliant c
  | none => true

/-- the test the code applies to candidate `(k, c)`: within limits and, unless checking is switched off
(`CheckMode::NoCheck`), nothing found by the first-collision check that skips the unchanged links before joint `k` -/
def accepted (sceneAt : J6 R → Scene R) (unchanged : J6 R → Nat → Bool) (own : Safety R) (cons : Option (Constraints R))
    (choice : List (Nat × Nat) → Option (Nat × Nat)) (kc : Nat × J6 R) : Bool :=
  compliantOpt cons kc.2 &&
    (own.mode == .noCheck ||
      (detect (sceneAt kc.2) own own (some .firstCollisionOnly) (skipOf unchanged kc.1 kc.2) choice).isEmpty)

/-- the full check of one configuration (no skips), with the mode forced to first-collision -/
def fullCheckFree (sc : Scene R) (own : Safety R) (choice : List (Nat × Nat) → Option (Nat × Nat)) : Bool :=
  (detect sc own own (some .firstCollisionOnly) [] choice).isEmpty

/-- The precondition of the skip optimisation: in the scene of a candidate `(k, c)` within limits no relevant
pair of bodies that both did not move (the unchanged links before joint `k`, the base, environment objects)
collides.  A collision-free initial vector gives this (`unmovedFree_of_initial_free`). -/
def UnmovedFree (sceneAt : J6 R → Scene R) (unchanged : J6 R → Nat → Bool) (own : Safety R) (cons : Option (Constraints R))
    (initial f t : J6 R) : Prop :=
  ∀ kc ∈ offsetCandidates initial f t, compliantOpt cons kc.2 = true →
    ∀ p ∈ relevantPairs (sceneAt kc.2),
      unmoved (skipOf unchanged kc.1 kc.2) p.1 = true → unmoved (skipOf unchanged kc.1 kc.2) p.2 = true →
      taskCollides (sceneAt kc.2) own p.1 p.2 = false

omit [OpwNum R] in
theorem offsetCandidates_spec (initial f t : J6 R) :
    offsetCandidates initial f t =
      [(0, initial.set 0 (f.get 0)), (0, initial.set 0 (t.get 0)),
       (1, initial.set 1 (f.get 1)), (1, initial.set 1 (t.get 1)),
       (2, initial.set 2 (f.get 2)), (2, initial.set 2 (t.get 2)),
       (3, initial.set 3 (f.get 3)), (3, initial.set 3 (t.get 3)),
       (4, initial.set 4 (f.get 4)), (4, initial.set 4 (t.get 4)),
       (5, initial.set 5 (f.get 5)), (5, initial.set 5 (t.get 5))] ∧
    (offsetCandidates initial f t).length = 12 := ⟨rfl, rfl⟩

omit [OpwNum R] in
theorem offsetCandidates_explicit (i f t : J6 R) :
    (offsetCandidates i f t).map (·.2) =
      [⟨f.j1, i.j2, i.j3, i.j4, i.j5, i.j6⟩, ⟨t.j1, i.j2, i.j3, i.j4, i.j5, i.j6⟩,
       ⟨i.j1, f.j2, i.j3, i.j4, i.j5, i.j6⟩, ⟨i.j1, t.j2, i.j3, i.j4, i.j5, i.j6⟩,
       ⟨i.j1, i.j2, f.j3, i.j4, i.j5, i.j6⟩, ⟨i.j1, i.j2, t.j3, i.j4, i.j5, i.j6⟩,
       ⟨i.j1, i.j2, i.j3, f.j4, i.j5, i.j6⟩, ⟨i.j1, i.j2, i.j3, t.j4, i.j5, i.j6⟩,
       ⟨i.j1, i.j2, i.j3, i.j4, f.j5, i.j6⟩, ⟨i.j1, i.j2, i.j3, i.j4, t.j5, i.j6⟩,
       ⟨i.j1, i.j2, i.j3, i.j4, i.j5, f.j6⟩, ⟨i.j1, i.j2, i.j3, i.j4, i.j5, t.j6⟩] := rfl

omit [OpwNum R] in
theorem mem_offsetCandidates (initial f t : J6 R) (kc : Nat × J6 R) :
    kc ∈ offsetCandidates initial f t ↔
      kc.1 < 6 ∧ (kc.2 = initial.set kc.1 (f.get kc.1) ∨ kc.2 = initial.set kc.1 (t.get kc.1)) := by
  simp only [offsetCandidates, List.mem_flatMap, List.mem_range, List.mem_cons, List.not_mem_nil, or_false]
  constructor
  · rintro ⟨k, hk, rfl | rfl⟩
    · exact ⟨hk, .inl rfl⟩
    · exact ⟨hk, .inr rfl⟩
  · rintro ⟨hk, h⟩
    exact ⟨kc.1, hk, h.imp (Prod.ext rfl) (Prod.ext rfl)⟩

theorem offsets_eq_filter (sceneAt : J6 R → Scene R) (unchanged : J6 R → Nat → Bool) (own : Safety R) (cons : Option (Constraints R))
    (initial f t : J6 R) (choice : List (Nat × Nat) → Option (Nat × Nat)) :
    nonCollidingOffsets sceneAt unchanged own cons initial f t choice =
      ((offsetCandidates initial f t).filter (accepted sceneAt unchanged own cons choice)).map (·.2) := by
  rw [← filterMap_ite]
  refine List.filterMap_congr fun ⟨k, c⟩ _ => ?_
  -- the nested `if`s of the code are one Boolean test
  show (if !compliantOpt cons c then none else _) = _
  unfold accepted
  generalize (detect _ own own _ _ choice).isEmpty = free
  cases compliantOpt cons c <;> cases own.mode == CheckMode.noCheck <;> cases free <;> rfl

/-- without any hypothesis: same order as the candidates, at most twelve, each within limits and free
according to the skip-based check -/
theorem offsets_sublist (sceneAt : J6 R → Scene R) (unchanged : J6 R → Nat → Bool) (own : Safety R) (cons : Option (Constraints R))
    (initial f t : J6 R) (choice : List (Nat × Nat) → Option (Nat × Nat)) :
    (nonCollidingOffsets sceneAt unchanged own cons initial f t choice).Sublist
        ((offsetCandidates initial f t).map (·.2)) ∧
    (nonCollidingOffsets sceneAt unchanged own cons initial f t choice).length ≤ 12 ∧
    (∀ c ∈ nonCollidingOffsets sceneAt unchanged own cons initial f t choice,
      compliantOpt cons c = true ∧
      ∃ k < 6, (c = initial.set k (f.get k) ∨ c = initial.set k (t.get k)) ∧
        (own.mode = .noCheck ∨
          (detect (sceneAt c) own own (some .firstCollisionOnly) (skipOf unchanged k c) choice).isEmpty = true)) := by
  rw [offsets_eq_filter]
  have hsub : (((offsetCandidates initial f t).filter (accepted sceneAt unchanged own cons choice)).map (·.2)).Sublist
      ((offsetCandidates initial f t).map (·.2)) := List.filter_sublist.map _
  refine ⟨hsub, by simpa only [List.length_map, (offsetCandidates_spec initial f t).2] using hsub.length_le, ?_⟩
  intro c hc
  obtain ⟨⟨k, c⟩, hkc, rfl⟩ := List.mem_map.1 hc
  obtain ⟨hmem, hacc⟩ := List.mem_filter.1 hkc
  simp only [accepted, Bool.and_eq_true, Bool.or_eq_true, beq_noCheck, decide_eq_true_eq] at hacc
  obtain ⟨hk, hform⟩ := (mem_offsetCandidates initial f t _).1 hmem
  exact ⟨hacc.1, k, hk, hform, hacc.2⟩

theorem tasks_skip_subset (sc : Scene R) (own : Safety R) (skip : List Nat) (p : Nat × Nat)
    (h : p ∈ tasks sc own skip) : p ∈ tasks sc own [] := tasks_subset sc own skip h

/-- the special case `unchanged = fun _ _ => true` (a robot without coupled joints), where the skip list is all
of `0..k-1` -/
theorem skipped_pairs_unmoved (sc : Scene R) (own : Safety R) (k : Nat) (hk : k ≤ 6) (p : Nat × Nat)
    (h1 : p ∈ tasks sc own []) (h2 : p ∉ tasks sc own (List.range k)) :
    unmoved (List.range k) p.1 = true ∧ unmoved (List.range k) p.2 = true :=
  missing_unmoved sc own (range_contains_jTool hk) h1 h2

/-- one candidate in the same special case: the skip-based check agrees with the full one, for every `choice` -/
theorem skip_check_exact (sc : Scene R) (own : Safety R) (k : Nat) (hk : k ≤ 6)
    (choice : List (Nat × Nat) → Option (Nat × Nat))
    (hU : ∀ p ∈ relevantPairs sc, unmoved (List.range k) p.1 = true → unmoved (List.range k) p.2 = true →
      taskCollides sc own p.1 p.2 = false) :
    (detect sc own own (some .firstCollisionOnly) (List.range k) choice).isEmpty =
      fullCheckFree sc own choice :=
  detect_skip_isEmpty sc own choice (range_contains_jTool hk) hU

omit [OpwNum R] in
theorem skipOf_contains_jTool (unchanged : J6 R → Nat → Bool) {k : Nat} (hk : k ≤ 6) (c : J6 R) :
    (skipOf unchanged k c).contains jTool = false := by
  have h := range_contains_jTool hk
  simp only [skipOf, List.contains_eq_mem, List.mem_filter, decide_eq_false_iff_not, not_and] at h ⊢
  intro hm; exact absurd hm h

/-- the same for the skip list of the code, `skipOf`: the links among `0..k-1` whose pose did not change (skipping
all of `0..k-1` is wrong for coupled joints) -/
theorem skip_check_exact' (sc : Scene R) (own : Safety R) (unchanged : J6 R → Nat → Bool) (k : Nat) (hk : k ≤ 6) (c : J6 R)
    (choice : List (Nat × Nat) → Option (Nat × Nat))
    (hU : ∀ p ∈ relevantPairs sc, unmoved (skipOf unchanged k c) p.1 = true → unmoved (skipOf unchanged k c) p.2 = true →
      taskCollides sc own p.1 p.2 = false) :
    (detect sc own own (some .firstCollisionOnly) (skipOf unchanged k c) choice).isEmpty =
      fullCheckFree sc own choice :=
  detect_skip_isEmpty sc own choice (skipOf_contains_jTool unchanged hk c) hU

theorem fullCheckFree_eq_not_collides (sc : Scene R) (own : Safety R)
    (choice : List (Nat × Nat) → Option (Nat × Nat)) (hmode : own.mode ≠ .noCheck) :
    fullCheckFree sc own choice = !collides sc own choice := by
  rw [collides_eq, Bool.not_not, beq_noCheck, decide_eq_false hmode]; rfl

theorem fullCheckFree_iff (sc : Scene R) (own : Safety R) (choice : List (Nat × Nat) → Option (Nat × Nat)) :
    fullCheckFree sc own choice = true ↔ ∀ p ∈ tasks sc own [], taskCollides sc own p.1 p.2 = false := by
  rw [fullCheckFree, detect_first_isEmpty, hitsOf_isEmpty]

theorem accepted_eq (sceneAt : J6 R → Scene R) (unchanged : J6 R → Nat → Bool) (own : Safety R) (cons : Option (Constraints R))
    (initial f t : J6 R) (choice : List (Nat × Nat) → Option (Nat × Nat))
    (hU : UnmovedFree sceneAt unchanged own cons initial f t) (kc : Nat × J6 R) (hkc : kc ∈ offsetCandidates initial f t) :
    accepted sceneAt unchanged own cons choice kc =
      (compliantOpt cons kc.2 && !collides (sceneAt kc.2) own choice) := by
  rw [accepted, collides_eq, Bool.not_not]
  cases hc : compliantOpt cons kc.2
  · rw [Bool.false_and, Bool.false_and]
  · rw [skip_check_exact' _ own unchanged kc.1 (Nat.le_of_lt ((mem_offsetCandidates initial f t kc).1 hkc).1) kc.2 choice
      (hU kc hkc hc)]; rfl

/-- MAIN: under `UnmovedFree` the neighbours offered are exactly the candidates within limits that
`RobotBody::collides` reports free, in candidate order, in EVERY check mode (in no-check mode `collides` is `false`
and everything within limits is offered) -/
theorem offsets_exact (sceneAt : J6 R → Scene R) (unchanged : J6 R → Nat → Bool) (own : Safety R) (cons : Option (Constraints R))
    (initial f t : J6 R) (choice : List (Nat × Nat) → Option (Nat × Nat))
    (hU : UnmovedFree sceneAt unchanged own cons initial f t) :
    nonCollidingOffsets sceneAt unchanged own cons initial f t choice =
      (offsetCandidates initial f t).filterMap (fun kc =>
        if compliantOpt cons kc.2 = true ∧ collides (sceneAt kc.2) own choice = false
        then some kc.2 else none) := by
  rw [offsets_eq_filter, ← filterMap_ite]
  refine List.filterMap_congr fun kc hkc => ?_
  simp only [accepted_eq sceneAt unchanged own cons initial f t choice hU kc hkc, Bool.and_eq_true,
    Bool.not_eq_true']

/-- `non_colliding_offsets` offers exactly the single-joint replacements that are within limits and that the full check
reports free, provided no pair of unmoved bodies collides (`UnmovedFree`) -/
theorem offsets_exact_mem (sceneAt : J6 R → Scene R) (unchanged : J6 R → Nat → Bool) (own : Safety R) (cons : Option (Constraints R))
    (initial f t : J6 R) (choice : List (Nat × Nat) → Option (Nat × Nat))
    (hU : UnmovedFree sceneAt unchanged own cons initial f t) (c : J6 R) :
    c ∈ nonCollidingOffsets sceneAt unchanged own cons initial f t choice ↔
      (∃ k < 6, c = initial.set k (f.get k) ∨ c = initial.set k (t.get k)) ∧
      compliantOpt cons c = true ∧ collides (sceneAt c) own choice = false := by
  rw [offsets_exact sceneAt unchanged own cons initial f t choice hU]
  simp only [List.mem_filterMap, Option.ite_none_right_eq_some, Option.some.injEq, mem_offsetCandidates]
  constructor
  · rintro ⟨kc, ⟨hk, hform⟩, hh, rfl⟩
    exact ⟨⟨kc.1, hk, hform⟩, hh⟩
  · rintro ⟨⟨k, hk, hform⟩, hh⟩
    exact ⟨(k, c), ⟨hk, hform⟩, hh, rfl⟩

/-- where the precondition comes from: a collision-free initial vector, scenes with the same bodies, and verdicts
that depend only on the two poses -/
theorem unmovedFree_of_initial_free (sceneAt : J6 R → Scene R) (unchanged : J6 R → Nat → Bool) (own : Safety R)
    (cons : Option (Constraints R)) (initial f t : J6 R)
    (hbodies : ∀ c, relevantPairs (sceneAt c) = relevantPairs (sceneAt initial))
    (hsame : ∀ kc ∈ offsetCandidates initial f t, ∀ i j,
      unmoved (skipOf unchanged kc.1 kc.2) i = true → unmoved (skipOf unchanged kc.1 kc.2) j = true →
      taskCollides (sceneAt kc.2) own i j = taskCollides (sceneAt initial) own i j)
    (hfree : ∀ p ∈ relevantPairs (sceneAt initial), taskCollides (sceneAt initial) own p.1 p.2 = false) :
    UnmovedFree sceneAt unchanged own cons initial f t := by
  intro kc hkc _ p hp h1 h2
  rw [hsame kc hkc p.1 p.2 h1 h2]
  exact hfree p (by rw [← hbodies kc.2]; exact hp)

example : (offsetCandidates (⟨0, 0, 0, 0, 0, 0⟩ : J6 R) ⟨1, 1, 1, 1, 1, 1⟩ ⟨2, 2, 2, 2, 2, 2⟩).map
      (fun kc => (kc.1, kc.2.toList)) =
    [(0, [1, 0, 0, 0, 0, 0]), (0, [2, 0, 0, 0, 0, 0]), (1, [0, 1, 0, 0, 0, 0]), (1, [0, 2, 0, 0, 0, 0]),
     (2, [0, 0, 1, 0, 0, 0]), (2, [0, 0, 2, 0, 0, 0]), (3, [0, 0, 0, 1, 0, 0]), (3, [0, 0, 0, 2, 0, 0]),
     (4, [0, 0, 0, 0, 1, 0]), (4, [0, 0, 0, 0, 2, 0]), (5, [0, 0, 0, 0, 0, 1]), (5, [0, 0, 0, 0, 0, 2])] := rfl

example (sceneAt : J6 R → Scene R) (unchanged : J6 R → Nat → Bool) (own : Safety R) (initial f t : J6 R)
    (choice : List (Nat × Nat) → Option (Nat × Nat))
    (hfree : ∀ c i j, taskCollides (sceneAt c) own i j = false) :
    nonCollidingOffsets sceneAt unchanged own none initial f t choice = (offsetCandidates initial f t).map (·.2) := by
  rw [offsets_eq_filter, List.filter_eq_self.2]
  intro kc _
  simp only [accepted, compliantOpt, Bool.true_and, Bool.or_eq_true, detect_first_isEmpty, hitsOf_isEmpty]
  exact .inr fun p _ => hfree _ _ _

example (sceneAt : J6 R → Scene R) (unchanged : J6 R → Nat → Bool) (own : Safety R) (cc : Constraints R) (initial f t : J6 R)
    (choice : List (Nat × Nat) → Option (Nat × Nat))
    (hbad : ∀ kc ∈ offsetCandidates initial f t, cc.compliant kc.2 = false) :
    nonCollidingOffsets sceneAt unchanged own (some cc) initial f t choice = [] := by
  rw [offsets_eq_filter, List.map_eq_nil_iff, List.filter_eq_nil_iff]
  intro kc hkc
  simp [accepted, compliantOpt, hbad kc hkc]

end Opw.C14
