/-
  C02 (soundness part) — analytic soundness of the closed-form inverse kinematics on ALL EIGHT
  branches: for an ARBITRARY pose with a unit quaternion, every raw candidate of
  `thetaCandidates p pose` whose branch conditions hold reproduces the pose under the forward model.
  The counterpart of the completeness theorem C02b (where ONE candidate is the originating
  configuration); here nothing is assumed about where the pose comes from.  In the code this is only
  checked at run time (`compare_poses` in `inverse_intern`).

  The model text of `Kin.lean` in exact real arithmetic; the argument is in `Lemmas/IkSound.lean`.
  In θ-space (`θ = joint · sign − offset`):
  * `wc p pose = pose.t − c4 · (R ẑ)`, `R = pose.q.toMat`: the wrist centre of the pose as the solver
    computes it; `wcθ p θ`, `roe θ`: wrist centre and rotation matrix of the forward model at `θ`;
  * `FrontReach p c`: `0 ≤ c.x² + c.y² − b²` (the shoulder square root is real) and the argument of
    the elbow `acos` of the front rows lies in `[−1, 1]`; `BackReach p c`: the same for the back
    rows.  Nothing is strict: stretched/folded elbows and `c.x² + c.y² = b²` are included.  NO
    hypothesis on the shoulder `acos` is needed (`shoulder_acos_in_range`).  The degenerate case
    `s1 = 0` is covered only in the real reading, where `x / 0 = 0`; the `f64` code computes
    `0 / 0 = NaN` there and drops the candidate;
  * `ArmCond p pose i`: `FrontReach` for the candidates number 0, 1, 4, 5, `BackReach` for
    2, 3, 6, 7 (the list is four rows followed by their wrist-flipped twins);
  * wrist condition of a candidate `t`: `sin t.j5 ≠ 0` for the `θ5` the solver computed
    (`wrist_cond_iff` gives it as a matrix entry);
  * `Iso.Same a b`: the same rigid motion — equal translation, equal rotation MATRIX.
-/
import OpwVerif.Lemmas.IkSound
import OpwVerif.Props.C02b
namespace Opw.C02d
open Opw Opw.Wrist Opw.C02 Opw.IkComplete Opw.IkSound

/-- Arm soundness.  If the arm condition of the `i`-th raw candidate `t` holds, the wrist centre the
forward model computes for `(θ1, θ2, θ3)` of `t` is the wrist centre `pose.t − c4·(R ẑ)` of the pose.
No assumption on the quaternion, none on the wrist. -/
theorem candidate_arm_sound (p : Params ℝ) (pose : Iso ℝ) (hc : 0 < p.c2) (hk : 0 < kappa p)
    (i : ℕ) (t : J6 ℝ) (ht : (thetaCandidates p pose)[i]? = some t) (ha : ArmCond p pose i) :
    wcθ p t = wc p pose :=
  arm_sound_idx p pose hc hk i t ht ha

/-- the same read off the output of `forwardTheta`: translation minus `c4` times the tool axis -/
theorem candidate_arm_sound_fk (p : Params ℝ) (pose : Iso ℝ) (hc : 0 < p.c2) (hk : 0 < kappa p)
    (i : ℕ) (t : J6 ℝ) (ht : (thetaCandidates p pose)[i]? = some t) (ha : ArmCond p pose i) :
    (forwardTheta p t).2.sub ((M3.scaleL p.c4 (forwardTheta p t).1).mulVec V3.ez) = wc p pose := by
  rw [← candidate_arm_sound p pose hc hk i t ht ha, forwardTheta_snd, forwardTheta_fst]
  exact V3.ext' (add_sub_cancel_right _ _) (add_sub_cancel_right _ _) (add_sub_cancel_right _ _)

/-- the four arm rows spelled out (`th1i … th3iv` are the values of the source with these names;
`m` is any matrix: the arm angles of `cand` do not depend on it) -/
theorem arm_rows_sound (p : Params ℝ) (c : V3 ℝ) (m : M3 ℝ) (hc : 0 < p.c2) (hk : 0 < kappa p) :
    (FrontReach p c → wcθ p (cand m (th1i p c) (th2i p c) (th3i p c)) = c ∧
      wcθ p (cand m (th1i p c) (th2ii p c) (th3ii p c)) = c) ∧
    (BackReach p c → wcθ p (cand m (th1ii p c) (th2iii p c) (th3iii p c)) = c ∧
      wcθ p (cand m (th1ii p c) (th2iv p c) (th3iv p c)) = c) :=
  ⟨fun h => ⟨arm_front p c hc hk h rfl (.inl ⟨rfl, rfl⟩), arm_front p c hc hk h rfl (.inr ⟨rfl, rfl⟩)⟩,
   fun h => ⟨arm_back p c hc hk h rfl (.inl ⟨rfl, rfl⟩), arm_back p c hc hk h rfl (.inr ⟨rfl, rfl⟩)⟩⟩

/-- the shoulder `acos` needs no hypothesis of its own: elbow ratio in `[−1, 1]` and `s > 0` put
the shoulder ratio `(s + c2² − κ²) / (2 √s c2)` in `[−1, 1]` (`s > 0` is not needed either) -/
theorem shoulder_acos_in_range (c2 κ s : ℝ) (hc : 0 < c2) (hk : 0 < κ) (hs : 0 < s)
    (hb1 : -1 ≤ (s - c2 * c2 - κ * κ) / (2 * c2 * κ)) (hb2 : (s - c2 * c2 - κ * κ) / (2 * c2 * κ) ≤ 1) :
    -1 ≤ (s + c2 * c2 - κ * κ) / (2 * Real.sqrt s * c2) ∧
      (s + c2 * c2 - κ * κ) / (2 * Real.sqrt s * c2) ≤ 1 :=
  shoulder_ratio_mem hc hk hb1 hb2

/-- the reach conditions are what the pose of a configuration satisfies: wrist centre in front
of the J1 axis — front shoulder reaches; behind — back shoulder reaches -/
theorem reach_of_poseOf (p : Params ℝ) (θ : J6 ℝ) (hc : 0 < p.c2) (hk : 0 < kappa p) :
    (0 < cx1 p θ → FrontReach p (wc p (poseOf p θ))) ∧
      (cx1 p θ < 0 → BackReach p (wc p (poseOf p θ))) := by
  rw [wc_poseOf]
  have h0 := (sq_nonneg (cx1 p θ)).trans_eq (wc_sq p θ).symm
  exact ⟨fun h => ⟨h0, elbow_ratio_mem p θ hc hk (s1sq_front p θ h)⟩,
    fun h => ⟨h0, elbow_ratio_mem p θ hc hk (s2sq_back p θ h)⟩⟩

/-- Wrist soundness, all eight candidates.  For a unit quaternion and a raw candidate `t` with
`sin θ5 ≠ 0`, the rotation matrix of the forward model at `t` is the rotation matrix of the pose
(ZYZ decomposition of `R0cᵀ R`).  Holds whether or not the arm part of `t` reaches the wrist
centre. -/
theorem candidate_wrist_sound (p : Params ℝ) (pose : Iso ℝ) (hq : pose.q.normSq = 1) (t : J6 ℝ)
    (ht : t ∈ thetaCandidates p pose) (h5 : Real.sin t.j5 ≠ 0) :
    (forwardTheta p t).1 = pose.q.toMat := by
  rw [forwardTheta_fst]; exact wrist_sound_mem p pose hq t ht h5

/-- the wrist condition in terms of the matrix entry: for a rotation matrix `R` and ANY arm
angles, `sin θ5 ≠ 0` for the computed `θ5` iff the `(3,3)` entry `m` of `R0cᵀ R` has `m² ≠ 1` -/
theorem wrist_cond_iff {R : M3 ℝ} (hR : IsRot R) (t1 t2 t3 : ℝ) :
    Real.sin (cand R t1 t2 t3).j5 ≠ 0 ↔ mmOf R t1 (t2 + t3) * mmOf R t1 (t2 + t3) ≠ 1 :=
  ⟨mm_ne_of_sin_j5 R t1 t2 t3, sin_j5_of_mm_ne hR t1 t2 t3⟩

/-- wrist soundness for ANY arm angles, with the wrist condition on the matrix entry -/
theorem wrist_row_sound {R : M3 ℝ} (hR : IsRot R) (t1 t2 t3 : ℝ)
    (hm : mmOf R t1 (t2 + t3) * mmOf R t1 (t2 + t3) ≠ 1) : roe (cand R t1 t2 t3) = R :=
  roe_cand hR t1 t2 t3 hm

/-- Soundness of a raw candidate: arm condition of its row and `sin θ5 ≠ 0` — the forward model
returns exactly the rotation matrix and the translation of the pose. -/
theorem candidate_sound (p : Params ℝ) (pose : Iso ℝ) (hc : 0 < p.c2) (hk : 0 < kappa p)
    (hq : pose.q.normSq = 1) (i : ℕ) (t : J6 ℝ) (ht : (thetaCandidates p pose)[i]? = some t)
    (ha : ArmCond p pose i) (h5 : Real.sin t.j5 ≠ 0) :
    forwardTheta p t = (pose.q.toMat, pose.t) :=
  candidate_sound_idx p pose hc hk hq i t ht ha h5

/-- in joint space: `forward` of the joint vector built from the candidate is the same rigid
motion as the pose (the quaternion may differ in sign: `from_rotation_matrix ∘ to_rotation_matrix`);
the `[−π, π]` normalisation does not change it, and the candidate passes the run-time cross-check. -/
theorem candidate_sound_joint (p : Params ℝ) (hs : SignsOk p) (pose : Iso ℝ) (hc : 0 < p.c2)
    (hk : 0 < kappa p) (hq : pose.q.normSq = 1) (i : ℕ) (t : J6 ℝ)
    (ht : (thetaCandidates p pose)[i]? = some t) (ha : ArmCond p pose i) (h5 : Real.sin t.j5 ≠ 0) :
    Iso.Same (forward p (jointsOf p t)) pose ∧
      Iso.Same (forward p ((jointsOf p t).map normPi)) pose ∧
      finishCandidate p pose (jointsOf p t) = some ((jointsOf p t).map normPi) := by
  obtain ⟨h1, h2, h3⟩ := finish_of_forwardTheta p hs pose hq
    (candidate_sound p pose hc hk hq i t ht ha h5)
  exact ⟨h1, by rw [h2]; exact h1, h3⟩

/-- … hence the normalised joint vector IS among the answers of `inverse_intern` -/
theorem candidate_is_answer (p : Params ℝ) (hs : SignsOk p) (pose : Iso ℝ) (hc : 0 < p.c2)
    (hk : 0 < kappa p) (hq : pose.q.normSq = 1) (i : ℕ) (t : J6 ℝ)
    (ht : (thetaCandidates p pose)[i]? = some t) (ha : ArmCond p pose i) (h5 : Real.sin t.j5 ≠ 0) :
    (jointsOf p t).map normPi ∈ inverseIntern p pose :=
  List.mem_filterMap.mpr ⟨t, List.mem_of_getElem? ht,
    (candidate_sound_joint p hs pose hc hk hq i t ht ha h5).2.2⟩

/-- If both shoulders reach the wrist centre and no candidate is at the wrist singularity, ALL
eight raw candidates pass the run-time cross-check: `inverse_intern` returns exactly the eight
normalised candidates, in order, and each is the same rigid motion as the pose.  (The reach
conditions are not strict, so the eight answers need not be distinct; for distinctness under strict
conditions see `C02c.candidates_pairwise_distinct_of`.) -/
theorem all_reachable_eight_answers (p : Params ℝ) (hs : SignsOk p) (pose : Iso ℝ) (hc : 0 < p.c2)
    (hk : 0 < kappa p) (hq : pose.q.normSq = 1) (hf : FrontReach p (wc p pose))
    (hb : BackReach p (wc p pose)) (hw : ∀ t ∈ thetaCandidates p pose, Real.sin t.j5 ≠ 0) :
    inverseIntern p pose = (thetaCandidates p pose).map (fun t => (jointsOf p t).map normPi) ∧
      (inverseIntern p pose).length = 8 ∧
      ∀ s ∈ inverseIntern p pose, Sound p pose s ∧ Iso.Same (forward p s) pose := by
  have hfin := fun (t : J6 ℝ) (ht : t ∈ thetaCandidates p pose) =>
    finish_of_forwardTheta p hs pose hq (candidate_sound_mem p pose hc hk hq hf hb t ht (hw t ht))
  have e : inverseIntern p pose =
      (thetaCandidates p pose).map (fun t => (jointsOf p t).map normPi) :=
    filterMap_eq_map_of_forall _ _ _ (fun t ht => (hfin t ht).2.2)
  refine ⟨e, by rw [e, List.length_map, thetaCandidates_length], ?_⟩
  intro s hsm
  refine ⟨sound_of_mem_inverseIntern hsm, ?_⟩
  rw [e] at hsm
  obtain ⟨t, ht, rfl⟩ := List.mem_map.mp hsm
  obtain ⟨h1, h2, -⟩ := hfin t ht
  rw [h2]; exact h1

/-- the same for the public `inverse` of a 6-DOF robot without constraints -/
theorem inverse_eight_answers (k : Opw ℝ) (hs : SignsOk k.p) (hdof : k.p.dof ≠ 5) (hcons : k.cons = none)
    (pose : Iso ℝ) (hc : 0 < k.p.c2) (hk : 0 < kappa k.p) (hq : pose.q.normSq = 1)
    (hf : FrontReach k.p (wc k.p pose)) (hb : BackReach k.p (wc k.p pose))
    (hw : ∀ t ∈ thetaCandidates k.p pose, Real.sin t.j5 ≠ 0) :
    (k.inverse pose).length = 8 ∧ ∀ s ∈ k.inverse pose, Iso.Same (forward k.p s) pose := by
  rw [C02.inverse_eq_intern k hdof hcons]
  obtain ⟨-, h2, h3⟩ := all_reachable_eight_answers k.p hs pose hc hk hq hf hb hw
  exact ⟨h2, fun s h => (h3 s h).2⟩

/-- `inverse_intern_5_dof`: the answer built from a raw candidate whose branch conditions hold
is returned, whatever J6 is requested, and has EXACTLY the requested tool point and the requested
tool axis `R ẑ` (the rotation about the tool axis is what J6 changes). -/
theorem inverse5_candidate_exact (p : Params ℝ) (hs : SignsOk p) (pose : Iso ℝ) (hc : 0 < p.c2)
    (hk : 0 < kappa p) (hq : pose.q.normSq = 1) (j6 : ℝ) (i : ℕ) (t : J6 ℝ)
    (ht : (thetaCandidates p pose)[i]? = some t) (ha : ArmCond p pose i) (h5 : Real.sin t.j5 ≠ 0) :
    norm5 (jointsOf p t) j6 ∈ inverseIntern5 p pose j6 ∧
      (forward p (norm5 (jointsOf p t) j6)).t = pose.t ∧
      (forward p (norm5 (jointsOf p t) j6)).q.toMat.mulVec V3.ez = pose.q.toMat.mulVec V3.ez := by
  obtain ⟨h1, h2, h3⟩ := finish5_of_forwardTheta p hs pose j6
    (candidate_sound p pose hc hk hq i t ht ha h5)
  exact ⟨List.mem_filterMap.mpr ⟨t, List.mem_of_getElem? ht, h1⟩, h2, h3⟩

/-- all branch conditions: `inverse_intern_5_dof` returns eight answers, each with J6 as
requested and exactly the requested tool point and tool axis -/
theorem inverse5_eight_answers (p : Params ℝ) (hs : SignsOk p) (pose : Iso ℝ) (hc : 0 < p.c2)
    (hk : 0 < kappa p) (hq : pose.q.normSq = 1) (hf : FrontReach p (wc p pose))
    (hb : BackReach p (wc p pose)) (hw : ∀ t ∈ thetaCandidates p pose, Real.sin t.j5 ≠ 0) (j6 : ℝ) :
    (inverseIntern5 p pose j6).length = 8 ∧
      ∀ s ∈ inverseIntern5 p pose j6, s.j6 = j6 ∧ (forward p s).t = pose.t ∧
        (forward p s).q.toMat.mulVec V3.ez = pose.q.toMat.mulVec V3.ez := by
  have hfin := fun (t : J6 ℝ) (ht : t ∈ thetaCandidates p pose) =>
    finish5_of_forwardTheta p hs pose j6 (candidate_sound_mem p pose hc hk hq hf hb t ht (hw t ht))
  have e : inverseIntern5 p pose j6 =
      (thetaCandidates p pose).map (fun t => norm5 (jointsOf p t) j6) :=
    filterMap_eq_map_of_forall _ _ _ (fun t ht => (hfin t ht).1)
  refine ⟨by rw [e, List.length_map, thetaCandidates_length], ?_⟩
  intro s hsm
  rw [e] at hsm
  obtain ⟨t, ht, rfl⟩ := List.mem_map.mp hsm
  exact ⟨rfl, (hfin t ht).2⟩

/-- non-vacuity: the instance `pX`, `poseX` of `Lemmas/IkSound.lean` (mixed signs, offsets, tool
tilted about `x`) meets all branch conditions -/
example : SignsOk pX ∧ 0 < pX.c2 ∧ 0 < kappa pX ∧ poseX.q.normSq = 1 ∧ FrontReach pX (wc pX poseX) ∧
    BackReach pX (wc pX poseX) ∧ ∀ t ∈ thetaCandidates pX poseX, Real.sin t.j5 ≠ 0 :=
  ⟨signsOk_pX, c2_pX, kappa_pX_pos, poseX_unit, frontReach_X, backReach_X,
    wristCond_X⟩

example (i : ℕ) (t : J6 ℝ) (ht : (thetaCandidates pX poseX)[i]? = some t) :
    forwardTheta pX t = (poseX.q.toMat, poseX.t) :=
  candidate_sound pX poseX c2_pX kappa_pX_pos poseX_unit i t ht (armCond_X i)
    (wristCond_X t (List.mem_of_getElem? ht))

example (i : ℕ) (t : J6 ℝ) (ht : (thetaCandidates pX poseX)[i]? = some t) :
    wcθ pX t = wc pX poseX ∧ (forwardTheta pX t).1 = poseX.q.toMat :=
  ⟨candidate_arm_sound pX poseX c2_pX kappa_pX_pos i t ht (armCond_X i),
   candidate_wrist_sound pX poseX poseX_unit t (List.mem_of_getElem? ht)
     (wristCond_X t (List.mem_of_getElem? ht))⟩

example : (inverseIntern pX poseX).length = 8 ∧
    ∀ s ∈ inverseIntern pX poseX, Iso.Same (forward pX s) poseX :=
  let h := all_reachable_eight_answers pX signsOk_pX poseX c2_pX kappa_pX_pos
    poseX_unit frontReach_X backReach_X wristCond_X
  ⟨h.2.1, fun s hs => (h.2.2 s hs).2⟩

example : (inverseIntern5 pX poseX 0.7).length = 8 ∧
    ∀ s ∈ inverseIntern5 pX poseX 0.7, s.j6 = 0.7 ∧ (forward pX s).t = poseX.t ∧
      (forward pX s).q.toMat.mulVec V3.ez = poseX.q.toMat.mulVec V3.ez :=
  inverse5_eight_answers pX signsOk_pX poseX c2_pX kappa_pX_pos poseX_unit
    frontReach_X backReach_X wristCond_X 0.7

end Opw.C02d
