/-
  C04 — `inverse_continuing`: every returned angle is the 2π-representative nearest to the
  corresponding previous angle, the list is in non-decreasing order of the documented cost, it
  contains every solution of plain `inverse`, and a previous vector that is itself a solution
  comes back first.
  The property theorems; some restate a fact of the lemma files under this namespace, the one the
  check of C04 audits.  Helper lemmas live in `Lemmas/Nearest.lean` (whose head defines the
  vocabulary `absLe`, `within`, `sortedUnfiltered` of the statements) and `Lemmas/NormPi.lean`.
  Kinds: [R] real arithmetic, [G] generic (any number type, holds of the Float reading itself).
-/
import OpwVerif.Lemmas.Nearest
namespace Opw.C04
open Opw Opw.Nearest

/-- [R] On this range the model's `normPi` (fuel `normFuel`) does what the unbounded Rust loops do.  The
bound is a round number inside `|x| ≤ π + 2π·normFuel`, on which the fuel suffices (`normPi_abs_le`). -/
theorem normPi_range (x : ℝ) (h : |x| ≤ 100000) :
    normPi x ∈ Set.Icc (-Real.pi) Real.pi ∧ ∃ k : ℤ, normPi x = x + 2 * Real.pi * k :=
  ⟨abs_le.1 (normPi_abs_le x
      (h.trans ((le_add_of_nonneg_left (by positivity)).trans raw_add_offset_le))),
    normPiF_turn _ x⟩

theorem normPi_id (x : ℝ) (h : x ∈ Set.Icc (-Real.pi) Real.pi) : normPi x = x :=
  normPiF_id _ x h.1 h.2

example : normPi (7 : ℝ) ∈ Set.Icc (-Real.pi) Real.pi :=
  (normPi_range 7 (by rw [abs_of_nonneg] <;> norm_num)).1

/-- [R] one pass of the inner `adjust` (including the `±π` sign flip) is a shift by whole turns -/
theorem adjustNear_turn (now prev : ℝ) : ∃ k : ℤ, adjustNear now prev = now + 2 * Real.pi * k :=
  Nearest.adjustNear_turn now prev

/-- [R] `normalize_near(now, prev)` differs from `now` by whole turns -/
theorem normalizeNear_turn (now prev : ℝ) : ∃ k : ℤ, normalizeNear now prev = now + 2 * Real.pi * k :=
  Nearest.normalizeNear_turn now prev

theorem J6_normalizeNear_turn (s prev : J6 ℝ) :
    (∃ k : ℤ, (s.normalizeNear prev).j1 = s.j1 + 2 * Real.pi * k) ∧
    (∃ k : ℤ, (s.normalizeNear prev).j2 = s.j2 + 2 * Real.pi * k) ∧
    (∃ k : ℤ, (s.normalizeNear prev).j3 = s.j3 + 2 * Real.pi * k) ∧
    (∃ k : ℤ, (s.normalizeNear prev).j4 = s.j4 + 2 * Real.pi * k) ∧
    (∃ k : ℤ, (s.normalizeNear prev).j5 = s.j5 + 2 * Real.pi * k) ∧
    (∃ k : ℤ, (s.normalizeNear prev).j6 = s.j6 + 2 * Real.pi * k) :=
  ⟨Nearest.normalizeNear_turn s.j1 prev.j1, Nearest.normalizeNear_turn s.j2 prev.j2,
   Nearest.normalizeNear_turn s.j3 prev.j3, Nearest.normalizeNear_turn s.j4 prev.j4,
   Nearest.normalizeNear_turn s.j5 prev.j5, Nearest.normalizeNear_turn s.j6 prev.j6⟩

example : ∃ k : ℤ, normalizeNear (-Real.pi) (1 : ℝ) = -Real.pi + 2 * Real.pi * k :=
  normalizeNear_turn _ _

/-- [R] Two passes of `adjust` remove at most two turns; at distance `6π` the bound fails
(`normalizeNear_range_sharp`). -/
theorem normalizeNear_nearest_wide (now prev : ℝ) (h : |now - prev| ≤ 5 * Real.pi) :
    |normalizeNear now prev - prev| ≤ Real.pi :=
  normalizeNear_dist now prev h

/-- [R] The documented situation: a solution angle in `[-π, π]` and a previous angle in `[-2π, 2π]`. -/
theorem normalizeNear_nearest (now prev : ℝ) (hnow : |now| ≤ Real.pi) (hprev : |prev| ≤ 2 * Real.pi) :
    |normalizeNear now prev - prev| ≤ Real.pi :=
  normalizeNear_nearest_wide now prev
    ((abs_sub_le_add hnow hprev).trans (pi_add_two_pi.trans_le three_pi_le_five_pi))

/-- [R] "Nearest representative": no other `now + 2πk` is strictly closer to `prev`. -/
theorem normalizeNear_is_nearest (now prev : ℝ) (h : |now - prev| ≤ 5 * Real.pi) (k : ℤ) :
    |normalizeNear now prev - prev| ≤ |now + 2 * Real.pi * k - prev| := by
  obtain ⟨k0, hk0⟩ := Nearest.normalizeNear_turn now prev
  have := Angle.abs_le_abs_add_turn (normalizeNear_dist now prev h) (k - k0)
  rw [hk0] at this ⊢
  refine this.trans_eq ?_
  rw [Int.cast_sub]
  congr 1
  ring

/-- [R] The range of `normalizeNear_nearest_wide` cannot be widened to `6π`.  Nothing is proved about
distances strictly between `5π` and `6π`. -/
theorem normalizeNear_range_sharp :
    normalizeNear (6 * Real.pi) 0 = 2 * Real.pi ∧ ¬ |normalizeNear (6 * Real.pi) 0 - 0| ≤ Real.pi := by
  refine ⟨normalizeNear_six_pi, ?_⟩
  rw [normalizeNear_six_pi, sub_zero, abs_of_pos Real.two_pi_pos, not_le]
  exact lt_mul_of_one_lt_left Real.pi_pos one_lt_two

example : |normalizeNear (1 : ℝ) (-3) - (-3)| ≤ Real.pi :=
  normalizeNear_nearest 1 (-3)
    (by rw [abs_one]; exact one_le_two.trans Real.two_le_pi)
    (by rw [abs_neg, Nat.abs_ofNat]; linarith [Real.two_le_pi])

theorem sortCost_none {R : Type} [OpwNum R] (k : Opw R) (previous a : J6 R) (h : k.cons = none) :
    k.sortCost previous a = calculateDistance a previous := by
  unfold Opw.sortCost; rw [h]

theorem sortCost_byPrev (k : Opw ℝ) (c : Constraints ℝ) (previous a : J6 ℝ) (h : k.cons = some c)
    (hw : c.sortingWeight = byPrev) : k.sortCost previous a = calculateDistance a previous := by
  unfold Opw.sortCost; rw [h]
  simp only [feq_real, hw, decide_true, if_true]

theorem sortCost_byConstraints (k : Opw ℝ) (c : Constraints ℝ) (previous a : J6 ℝ) (h : k.cons = some c)
    (hw : c.sortingWeight = byConstraints) : k.sortCost previous a = calculateDistance a c.centers := by
  unfold Opw.sortCost; rw [h]
  -- `byConstraints = 1 ≠ 0 = byPrev`: the first test fails, the distance to `previous` is skipped, and
  -- what is left is `0 * (1 - 1) + calculateDistance a c.centers * 1`
  simp only [feq_real, hw, byPrev_real, byConstraints_real, lit0, lit1]
  norm_num

/-- [R] any other weight `w`: the mix `dist(previous)·(1 − w) + dist(centres)·w` -/
theorem sortCost_mixed (k : Opw ℝ) (c : Constraints ℝ) (previous a : J6 ℝ) (h : k.cons = some c)
    (h0 : c.sortingWeight ≠ byPrev) (h1 : c.sortingWeight ≠ byConstraints) :
    k.sortCost previous a =
      calculateDistance a previous * (1 - c.sortingWeight) + calculateDistance a c.centers * c.sortingWeight := by
  unfold Opw.sortCost; rw [h]
  simp only [feq_real, h0, h1, lit1, decide_false, Bool.not_false, if_true, Bool.false_eq_true, if_false]

theorem sortCost_eq_distance (k : Opw ℝ)
    (hmode : k.cons = none ∨ ∃ c, k.cons = some c ∧ c.sortingWeight = byPrev) (prev a : J6 ℝ) :
    k.sortCost prev a = calculateDistance a prev := by
  rcases hmode with h | ⟨c, h, hw⟩
  · exact sortCost_none k prev a h
  · exact sortCost_byPrev k c prev a h hw

theorem calculateDistance_eq (a b : J6 ℝ) :
    calculateDistance a b =
      |a.j1 - b.j1| + |a.j2 - b.j2| + |a.j3 - b.j3| + |a.j4 - b.j4| + |a.j5 - b.j5| + |a.j6 - b.j6| :=
  calculateDistance_real a b

/-- [G] the rearrangement part holds for every number type -/
theorem sortByCloseness_perm {R : Type} [OpwNum R] (k : Opw R) (l : List (J6 R)) (previous : J6 R) :
    (k.sortByCloseness l previous).Perm l := by
  unfold Opw.sortByCloseness; exact List.mergeSort_perm _ _

/-- [R] `sort_by_closeness`: non-decreasing cost, nothing lost, nothing invented. -/
theorem sortByCloseness_sorted (k : Opw ℝ) (l : List (J6 ℝ)) (previous : J6 ℝ) :
    (k.sortByCloseness l previous).Pairwise (fun a b => k.sortCost previous a ≤ k.sortCost previous b) ∧
    (k.sortByCloseness l previous).Perm l :=
  ⟨sortByCloseness_pairwise k l previous, sortByCloseness_perm k l previous⟩

example : ∃ (k : Opw ℝ) (c : Constraints ℝ), k.cons = some c ∧ c.sortingWeight ≠ byPrev ∧
    c.sortingWeight ≠ byConstraints :=
  ⟨⟨default, some ⟨default, default, default, default, 1 / 2⟩⟩, _, rfl,
    by rw [byPrev_real]; norm_num, by rw [byConstraints_real]; norm_num⟩

/-- [R] `inverse_continuing` returns its solutions in non-decreasing order of the cost, on the 6-DOF
and on the 5-DOF path: both end with sort, then filter. -/
theorem inverseContinuing_sorted (k : Opw ℝ) (pose : Iso ℝ) (prev : J6 ℝ) :
    (k.inverseContinuing pose prev).Pairwise (fun a b => k.sortCost prev a ≤ k.sortCost prev b) := by
  have key : ∀ l, (k.filterCompliant (k.sortByCloseness l prev)).Pairwise
      (fun a b => k.sortCost prev a ≤ k.sortCost prev b) :=
    fun l => (sortByCloseness_pairwise k l prev).sublist (filterCompliant_sublist k _)
  by_cases hd : k.p.dof = 5
  · rw [Opw.inverseContinuing_of_dof5 hd, Opw.inverseContinuing5dof, reference_real]
    exact key _
  · rw [Opw.inverseContinuing_of_dof6 hd, Opw.inverseContinuing6, reference_real]
    exact key _

example : ∃ (k : Opw ℝ), k.p.dof ≠ 5 := ⟨⟨⟨1, 2, 3, 4, 5, 6, 7, default, default, 6⟩, none⟩, by decide⟩

theorem inverseContinuing_eq {R : Type} [OpwNum R] (k : Opw R) (pose : Iso R) (prev : J6 R)
    (hdof : k.p.dof ≠ 5) :
    k.inverseContinuing pose prev = k.filterCompliant (sortedUnfiltered k pose prev) := by
  rw [Opw.inverseContinuing_of_dof6 hdof]
  rfl

/-- [G] `hpose`: adding the zero shift leaves the pose unchanged (`x + 0 = x`, true for finite floats
and for reals). -/
theorem inverseContinuing_superset_generic {R : Type} [OpwNum R] (k : Opw R) (pose : Iso R)
    (prev : J6 R) (hpose : shiftPose pose V3.zero = pose) (s : J6 R) (hs : s ∈ inverseIntern k.p pose) :
    s.normalizeNear (k.reference prev) ∈ sortedUnfiltered k pose prev := by
  unfold sortedUnfiltered
  rw [mem_sortByCloseness]
  apply List.mem_map_of_mem
  apply shiftLoop_first k pose _ V3.zero
  rw [hpose]; exact hs

theorem inverseContinuing_superset_of_compliant {R : Type} [OpwNum R] (k : Opw R) (pose : Iso R)
    (prev : J6 R) (hdof : k.p.dof ≠ 5) (hpose : shiftPose pose V3.zero = pose) (s : J6 R)
    (hs : s ∈ inverseIntern k.p pose)
    (hc : k.compliant (s.normalizeNear (k.reference prev)) = true) :
    s.normalizeNear (k.reference prev) ∈ k.inverseContinuing pose prev := by
  rw [inverseContinuing_eq k pose prev hdof, mem_filterCompliant]
  exact ⟨inverseContinuing_superset_generic k pose prev hpose s hs, hc⟩

/-- [R] Every `inverse_intern` solution, moved next to `prev`, is in the sorted unfiltered list, and in
the result if compliant. -/
theorem inverseContinuing_superset (k : Opw ℝ) (pose : Iso ℝ) (prev : J6 ℝ) (hdof : k.p.dof ≠ 5)
    (s : J6 ℝ) (hs : s ∈ inverseIntern k.p pose) :
    s.normalizeNear prev ∈ sortedUnfiltered k pose prev ∧
    (k.compliant (s.normalizeNear prev) = true → s.normalizeNear prev ∈ k.inverseContinuing pose prev) := by
  have h := inverseContinuing_superset_generic k pose prev (shiftPose_zero_real pose) s hs
  have h' := inverseContinuing_superset_of_compliant k pose prev hdof (shiftPose_zero_real pose) s hs
  rw [reference_real] at h h'
  exact ⟨h, h'⟩

/-- [R] Every solution returned by plain `inverse` is returned by `inverse_continuing` as well
(as its representative next to `prev`), with or without constraints. -/
theorem inverse_subset_inverseContinuing (k : Opw ℝ) (pose : Iso ℝ) (prev : J6 ℝ)
    (hdof : k.p.dof ≠ 5) (s : J6 ℝ) (hs : s ∈ k.inverse pose) :
    s.normalizeNear prev ∈ k.inverseContinuing pose prev := by
  obtain ⟨h1, h2⟩ := (mem_inverse_of_dof6 hdof).1 hs
  exact (inverseContinuing_superset k pose prev hdof s h1).2 ((compliant_normalizeNear k s prev).trans h2)

/-- non-vacuity: a robot (`c2 = c3 = 1`, other lengths `0`), the pose "tool at `(0,0,2)`, identity
orientation", and the zero vector, which plain `inverse` returns -/
example : ∃ (k : Opw ℝ) (pose : Iso ℝ) (s : J6 ℝ), k.p.dof ≠ 5 ∧ s ∈ k.inverse pose :=
  ⟨exOpw, exPose, zero6, ex_dof, ex_mem_inverse⟩

example : zero6.normalizeNear zero6 ∈ exOpw.inverseContinuing exPose zero6 :=
  inverse_subset_inverseContinuing exOpw exPose zero6 ex_dof zero6 ex_mem_inverse

theorem inverseContinuing_mem_raw (k : Opw ℝ) (pose : Iso ℝ) (prev : J6 ℝ) (s' : J6 ℝ)
    (h : s' ∈ k.inverseContinuing pose prev) :
    ∃ s, (s ∈ shiftLoop k pose prev shifts [] ∨ s ∈ inverseIntern5 k.p pose prev.j6) ∧
      s' = s.normalizeNear prev := by
  by_cases hd : k.p.dof = 5
  · rw [Opw.inverseContinuing_of_dof5 hd, mem_inverseContinuing5dof, reference_real] at h
    obtain ⟨⟨s, hs, rfl⟩, -⟩ := h
    exact ⟨s, .inr hs, rfl⟩
  · rw [Opw.inverseContinuing_of_dof6 hd, mem_inverseContinuing6, reference_real] at h
    obtain ⟨⟨s, hs, rfl⟩, -⟩ := h
    exact ⟨s, .inl hs, rfl⟩

/-- [R] Every angle of every returned solution — 6-DOF or 5-DOF path, regular or recovered singular
candidate — is within `π` of the corresponding previous angle, hence (`normalizeNear_is_nearest`) the
nearest 2π-representative.  The offset bound is explained at `Nearest.raw_add_offset_le`. -/
theorem inverseContinuing_nearest (k : Opw ℝ) (pose : Iso ℝ) (prev : J6 ℝ)
    (hsign : absLe k.p.signs 1) (hoff : absLe k.p.offsets 100000) (hprev : absLe prev (2 * Real.pi))
    (s' : J6 ℝ) (h : s' ∈ k.inverseContinuing pose prev) : within s' prev Real.pi := by
  have h0 : 0 ≤ 5 * Real.pi := mul_nonneg (by norm_num) Real.pi_pos.le
  have hc : Real.pi + 2 * Real.pi ≤ 5 * Real.pi := pi_add_two_pi.trans_le three_pi_le_five_pi
  obtain ⟨s, hs | hs, rfl⟩ := inverseContinuing_mem_raw k pose prev s' h <;> apply normalizeNear_within
  · exact within_mono (shiftLoop_within raw_add_offset_le k pose prev hsign hoff hprev _ s hs) three_pi_le_five_pi
  · obtain ⟨a1, a2, a3, a4, a5, a6⟩ := inverseIntern5_absLe raw_add_offset_le _ _ _ s hsign hoff hs
    obtain ⟨p1, p2, p3, p4, p5, -⟩ := hprev
    exact ⟨(abs_sub_le_add a1 p1).trans hc, (abs_sub_le_add a2 p2).trans hc,
      (abs_sub_le_add a3 p3).trans hc, (abs_sub_le_add a4 p4).trans hc,
      (abs_sub_le_add a5 p5).trans hc, by rwa [a6, sub_self, abs_zero]⟩

example : absLe exOpw.p.signs 1 ∧ absLe exOpw.p.offsets 100000 ∧ absLe zero6 (2 * Real.pi) ∧
    zero6.normalizeNear zero6 ∈ exOpw.inverseContinuing exPose zero6 := by
  refine ⟨?_, ?_, ?_, inverse_subset_inverseContinuing exOpw exPose zero6 ex_dof zero6 ex_mem_inverse⟩
  · simp only [absLe, exOpw, exParams, abs_one, le_refl, and_self]
  · simp only [absLe, exOpw, exParams, abs_zero, Nat.ofNat_nonneg, and_self]
  · simp only [absLe, zero6, abs_zero, Real.two_pi_pos.le, and_self]

/-- [R] Conditional form of "previous comes back first": `hmem` assumes that `prev` is in the
normalised list. -/
theorem prev_first (k : Opw ℝ) (pose : Iso ℝ) (prev : J6 ℝ) (hdof : k.p.dof ≠ 5)
    (hmode : k.cons = none ∨ ∃ c, k.cons = some c ∧ c.sortingWeight = byPrev)
    (hcomp : k.compliant prev = true)
    (hmem : ∃ s ∈ (shiftLoop k pose prev shifts []).map (fun s => s.normalizeNear prev), s = prev) :
    (k.inverseContinuing pose prev).head? = some prev := by
  have hcost := sortCost_eq_distance k hmode prev
  obtain ⟨s, hs, rfl⟩ := hmem
  have hin : s ∈ k.inverseContinuing pose s := by
    rw [inverseContinuing_eq k pose s hdof, mem_filterCompliant]
    refine ⟨?_, hcomp⟩
    unfold sortedUnfiltered
    rw [mem_sortByCloseness, reference_real]
    exact hs
  obtain ⟨h, hh, hle⟩ := head_of_sorted_min (k.sortCost s) _ (inverseContinuing_sorted k pose s) hin
  rw [hh]
  congr 1
  rw [hcost, hcost, calculateDistance_self] at hle
  exact (calculateDistance_eq_zero_iff h s).mp (le_antisymm hle (calculateDistance_nonneg h s))

theorem normalizeNear_self (s : J6 ℝ) : s.normalizeNear s = s := by
  unfold J6.normalizeNear J6.zipWith
  simp only [Nearest.normalizeNear_self]

/-- [R] `hsol`: `prev` is itself one of the solutions `inverse_intern` finds for the pose (it realises
the pose and the closed-form solver reproduces it, which is what fails at a wrist singularity). -/
theorem prev_first_of_solution (k : Opw ℝ) (pose : Iso ℝ) (prev : J6 ℝ) (hdof : k.p.dof ≠ 5)
    (hmode : k.cons = none ∨ ∃ c, k.cons = some c ∧ c.sortingWeight = byPrev)
    (hcomp : k.compliant prev = true) (hsol : prev ∈ inverseIntern k.p pose) :
    (k.inverseContinuing pose prev).head? = some prev :=
  prev_first k pose prev hdof hmode hcomp
    ⟨prev.normalizeNear prev,
      List.mem_map_of_mem (shiftLoop_first k pose prev V3.zero _ (by rw [shiftPose_zero_real]; exact hsol)),
      normalizeNear_self prev⟩

/-- non-vacuity: for the example robot and pose the zero vector is a solution, there are no
constraints, and it comes back first -/
example : (exOpw.inverseContinuing exPose zero6).head? = some zero6 :=
  prev_first_of_solution exOpw exPose zero6 ex_dof (Or.inl rfl) (compliant_of_none _ _ rfl) ex_mem

end Opw.C04
