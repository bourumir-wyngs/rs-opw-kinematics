/-
  C10 — Collision verdicts (`collisions.rs`): the pairs the code tests are exactly the pairs of the
  property statement that pass the never-collides gate, each pair is judged like a brute-force check
  at the safety distance of that pair, and the three check modes report all hits / one of the hits /
  nothing.
  Kind [A] throughout: every scene (any environment length, any answers of the oracles `intersects`,
  `distance`, `aabbNear`), every safety table, every `choice` (the nondeterminism of the parallel
  `find_map_any`), generic number type; order facts about numbers are explicit hypotheses.
-/
import OpwVerif.Lemmas.Coll
namespace Opw.C10
open Opw.Coll

variable {R : Type} [OpwNum R]

/-- what a correct bounding-volume test guarantees: the AABB pre-filter never discards a pair whose
shapes are within the safety distance of that pair -/
def PrefilterSound (sc : Scene R) (safety : Safety R) : Prop :=
  ∀ i j, sc.distance i j ≤ safety.minDistance i j → sc.aabbNear i j (safety.minDistance i j) = true

/-- the two comparisons the code makes with `NEVER_COLLIDES` (`r > n` in `check_required`,
`r <= n` in `CollisionTask::collides`) are complementary for the safety distances of the table.
True over the reals and for the `f32` distances of the code whenever the distance is not NaN. -/
def GateOk (own : Safety R) : Prop :=
  ∀ a b, ¬ (own.minDistance a b > neverCollides) → own.minDistance a b ≤ neverCollides

/-- the table does not hold both orientations of a pair with different values -/
def SpecialConsistent (s : Safety R) : Prop :=
  ∀ a b r, lookupPair s.special a b = some r →
    lookupPair s.special b a = none ∨ lookupPair s.special b a = some r

/-- full check (`skip = []`): the code enumerates the pairs of the property statement that pass
`check_required`, plus the tool–base pair, which it pushes whenever both exist (its verdict is still
gated, see `hit_iff`) -/
theorem mem_tasks_iff (sc : Scene R) (own : Safety R) (p : Nat × Nat) :
    p ∈ tasks sc own [] ↔
      p ∈ relevantPairs sc ∧ (checkRequired own [] p.1 p.2 = true ∨ p = (jTool, jBase)) :=
  mem_tasks_of_tool_moved sc own rfl p

/-- no pair is enumerated twice (any skip list) -/
theorem tasks_nodup (sc : Scene R) (own : Safety R) (skip : List Nat) : (tasks sc own skip).Nodup :=
  Coll.tasks_nodup sc own skip

omit [OpwNum R] in
theorem relevantPairs_complete (sc : Scene R) (i j : Nat) :
    (i, j) ∈ relevantPairs sc ↔
      (i < 6 ∧ j < 6 ∧ i + 1 < j) ∨
      (i < 6 ∧ envStart ≤ j ∧ j < envStart + sc.envLen) ∨
      (sc.hasTool = true ∧ i = jTool ∧ envStart ≤ j ∧ j < envStart + sc.envLen) ∨
      (sc.hasTool = true ∧ i < 4 ∧ j = jTool) ∨
      (sc.hasBase = true ∧ 1 ≤ i ∧ i < 6 ∧ j = jBase) ∨
      (sc.hasTool = true ∧ sc.hasBase = true ∧ i = jTool ∧ j = jBase) :=
  mem_relevantPairs sc i j

/-- with a sound pre-filter the verdict of one task is the brute-force verdict -/
theorem taskCollides_eq_pairVerdict {sc : Scene R} {safety : Safety R} (h : PrefilterSound sc safety)
    (i j : Nat) : taskCollides sc safety i j = pairVerdict sc safety i j :=
  Coll.taskCollides_eq_pairVerdict h i j

/-- without any assumption the pre-filter can only remove hits -/
theorem taskCollides_imp_pairVerdict (sc : Scene R) (safety : Safety R) (i j : Nat)
    (h : taskCollides sc safety i j = true) : pairVerdict sc safety i j = true := by
  unfold taskCollides at h
  unfold pairVerdict
  -- the two verdicts differ only where the pre-filter answers "far", and there the task says `false`
  cases hn : sc.aabbNear i j (safety.minDistance i j)
  · simp only [hn, Bool.not_false, if_true] at h
    by_cases hA : safety.minDistance i j ≤ neverCollides
    · simp only [hA, if_true, Bool.false_eq_true] at h
    · by_cases hB : feq (safety.minDistance i j) touchOnly = true
      · simpa only [hA, hB, if_false, if_true] using h
      · simp only [hA, hB, if_false, Bool.false_eq_true] at h
  · simpa only [hn, Bool.not_true, Bool.false_eq_true, if_false] using h

theorem collisionDetails_eq (sc : Scene R) (own : Safety R) (choice : List (Nat × Nat) → Option (Nat × Nat)) :
    collisionDetails sc own choice = processTasks sc own own.mode (tasks sc own []) choice := rfl

/-- gate and verdict from the same table (`collision_details`, `collides`): a pair gated out by
`check_required` has verdict `false` anyway, given `GateOk` -/
theorem hit_iff (sc : Scene R) (own : Safety R) (hle : GateOk own) (p : Nat × Nat) :
    p ∈ tasks sc own [] ∧ taskCollides sc own p.1 p.2 = true ↔
      p ∈ relevantPairs sc ∧ taskCollides sc own p.1 p.2 = true := by
  rw [mem_tasks_iff]
  refine and_congr_left fun h2 => and_iff_left_of_imp fun h1 => .inl ?_
  rw [checkRequired_nil_relevant h1]
  by_contra hn
  exact taskCollides_true_not_le h2 (hle _ _ hn)

theorem mem_hits_iff (sc : Scene R) (own : Safety R) (hle : GateOk own) (q : Nat × Nat) :
    q ∈ hitsOf sc own (tasks sc own []) ↔
      ∃ p ∈ relevantPairs sc, taskCollides sc own p.1 p.2 = true ∧ q = normPair p := by
  simp only [mem_hitsOf, ← and_assoc, hit_iff sc own hle]

theorem no_hit_iff (sc : Scene R) (own : Safety R) (hle : GateOk own) :
    (∀ p ∈ tasks sc own [], taskCollides sc own p.1 p.2 = false) ↔
      ∀ p ∈ relevantPairs sc, taskCollides sc own p.1 p.2 = false := by
  simp only [← Bool.not_eq_true, ← not_and, hit_iff sc own hle]

/-- all-collisions mode reports exactly the pairs of the property statement whose brute-force verdict
at their safety distance is "collides", each as (smaller index, larger index) -/
theorem all_mode_exact (sc : Scene R) (own : Safety R) (choice : List (Nat × Nat) → Option (Nat × Nat))
    (hmode : own.mode = .allCollisions) (hpre : PrefilterSound sc own) (hle : GateOk own)
    (q : Nat × Nat) :
    q ∈ collisionDetails sc own choice ↔
      ∃ p ∈ relevantPairs sc, pairVerdict sc own p.1 p.2 = true ∧ q = normPair p := by
  rw [collisionDetails_eq, hmode, processTasks_all, mem_hits_iff sc own hle]
  simp only [Coll.taskCollides_eq_pairVerdict hpre]

/-- the report in all-collisions mode as a list, in enumeration order (no assumption) -/
theorem all_mode_list (sc : Scene R) (own : Safety R) (choice : List (Nat × Nat) → Option (Nat × Nat))
    (hmode : own.mode = .allCollisions) :
    collisionDetails sc own choice =
      ((tasks sc own []).filter (fun p => taskCollides sc own p.1 p.2)).map normPair := by
  rw [collisionDetails_eq, hmode]; rfl

/-- `near`: pairs gated by the body's own table, judged at the distances of the other table -/
theorem near_all_mode (sc : Scene R) (own other : Safety R)
    (choice : List (Nat × Nat) → Option (Nat × Nat)) (hmode : other.mode = .allCollisions)
    (q : Nat × Nat) :
    q ∈ near sc own other choice ↔
      ∃ p ∈ relevantPairs sc, (checkRequired own [] p.1 p.2 = true ∨ p = (jTool, jBase)) ∧
        taskCollides sc other p.1 p.2 = true ∧ q = normPair p := by
  simp only [near, detect, Option.getD_none, hmode, processTasks_all, mem_hitsOf, mem_tasks_iff, and_assoc]

/-- first-collision mode, for EVERY `choice`: at most one pair is reported, it is one of the pairs
all-collisions mode would report, and nothing is reported only if there is no hit at all -/
theorem first_mode (sc : Scene R) (own : Safety R) (choice : List (Nat × Nat) → Option (Nat × Nat))
    (hmode : own.mode = .firstCollisionOnly) :
    let hits := ((tasks sc own []).filter (fun p => taskCollides sc own p.1 p.2)).map normPair
    (collisionDetails sc own choice).length ≤ 1 ∧
    (∀ q ∈ collisionDetails sc own choice, q ∈ hits) ∧
    (collisionDetails sc own choice = [] ↔ hits = []) := by
  rw [collisionDetails_eq, hmode]
  rcases processTasks_first sc own (tasks sc own []) choice with ⟨h1, h2⟩ | ⟨c, hc, h2⟩ <;> rw [h2]
  · exact ⟨Nat.zero_le 1, fun _ h => absurd h List.not_mem_nil, iff_of_true rfl h1⟩
  · exact ⟨Nat.le_refl 1, fun q hq => List.mem_singleton.1 hq ▸ hc,
      iff_of_false (List.cons_ne_nil c []) (List.ne_nil_of_mem hc)⟩

/-- the same in the vocabulary of the property statement (with `GateOk`) -/
theorem first_mode_relevant (sc : Scene R) (own : Safety R)
    (choice : List (Nat × Nat) → Option (Nat × Nat))
    (hmode : own.mode = .firstCollisionOnly) (hle : GateOk own) :
    (∀ q ∈ collisionDetails sc own choice,
        ∃ p ∈ relevantPairs sc, taskCollides sc own p.1 p.2 = true ∧ q = normPair p) ∧
    (collisionDetails sc own choice = [] ↔
        ∀ p ∈ relevantPairs sc, taskCollides sc own p.1 p.2 = false) := by
  obtain ⟨-, h2, h3⟩ := first_mode sc own choice hmode
  refine ⟨fun q hq => (mem_hits_iff sc own hle q).1 (h2 q hq), ?_⟩
  rw [h3, ← no_hit_iff sc own hle, ← hitsOf_isEmpty, List.isEmpty_iff]; rfl

/-- the clause "nothing in no-check mode", for `collision_details` and for `collides` -/
theorem nocheck_empty (sc : Scene R) (own : Safety R) (choice : List (Nat × Nat) → Option (Nat × Nat))
    (hmode : own.mode = .noCheck) :
    collisionDetails sc own choice = [] ∧ collides sc own choice = false := by
  rw [collisionDetails_eq, collides_eq, hmode]; exact ⟨rfl, rfl⟩

theorem collides_iff_tasks (sc : Scene R) (own : Safety R) (choice : List (Nat × Nat) → Option (Nat × Nat)) :
    collides sc own choice = true ↔
      own.mode ≠ .noCheck ∧ ∃ p ∈ tasks sc own [], taskCollides sc own p.1 p.2 = true := by
  rw [collides_eq, Bool.not_eq_true', Bool.or_eq_false_iff, ← Bool.not_eq_true (List.isEmpty _),
    detect_first_isEmpty, hitsOf_isEmpty, beq_noCheck, decide_eq_false_iff_not]
  simp only [not_forall, Bool.not_eq_false, exists_prop]

/-- `RobotBody::collides`, the first clause of the property; `GateOk` is what lets the gate of `check_required`
disappear from it -/
theorem collides_iff (sc : Scene R) (own : Safety R) (choice : List (Nat × Nat) → Option (Nat × Nat))
    (hle : GateOk own) :
    collides sc own choice = true ↔
      own.mode ≠ .noCheck ∧ ∃ p ∈ relevantPairs sc, taskCollides sc own p.1 p.2 = true := by
  simp only [collides_iff_tasks, hit_iff sc own hle]

theorem collides_iff_pairVerdict (sc : Scene R) (own : Safety R)
    (choice : List (Nat × Nat) → Option (Nat × Nat)) (hpre : PrefilterSound sc own) (hle : GateOk own) :
    collides sc own choice = true ↔
      own.mode ≠ .noCheck ∧ ∃ p ∈ relevantPairs sc, pairVerdict sc own p.1 p.2 = true := by
  rw [collides_iff sc own choice hle]
  simp only [Coll.taskCollides_eq_pairVerdict hpre]

/-- the clause "does not depend on thread count or scheduling": `choice` stands for rayon's `find_map_any`, which only
first-collision mode calls (there see `report_isEmpty_choice_independent`) -/
theorem report_choice_independent (sc : Scene R) (own : Safety R)
    (c1 c2 : List (Nat × Nat) → Option (Nat × Nat)) (hmode : own.mode ≠ .firstCollisionOnly) :
    collisionDetails sc own c1 = collisionDetails sc own c2 := by
  rw [collisionDetails_eq, collisionDetails_eq]
  cases hm : own.mode
  · exact absurd hm hmode
  · rfl
  · rfl

/-- in first-collision mode only WHICH hit is reported depends on `choice`, not whether one is -/
theorem report_isEmpty_choice_independent (sc : Scene R) (own : Safety R)
    (c1 c2 : List (Nat × Nat) → Option (Nat × Nat)) :
    (collisionDetails sc own c1).isEmpty = (collisionDetails sc own c2).isEmpty := by
  rw [collisionDetails_eq, collisionDetails_eq]
  cases own.mode
  · rw [processTasks_first_isEmpty, processTasks_first_isEmpty]
  · rfl
  · rfl

theorem collides_choice_independent (sc : Scene R) (own : Safety R)
    (c1 c2 : List (Nat × Nat) → Option (Nat × Nat)) :
    collides sc own c1 = collides sc own c2 := by
  rw [collides_eq, collides_eq, detect_first_isEmpty, detect_first_isEmpty]

omit [OpwNum R] in
/-- `SafetyDistances::min_distance` tries the key in both orientations; only a table holding both with different
values can tell `(a, b)` from `(b, a)` -/
theorem minDistance_symm (s : Safety R) (h : SpecialConsistent s) (a b : Nat) :
    s.minDistance a b = s.minDistance b a := by
  unfold Safety.minDistance
  cases hab : lookupPair s.special a b with
  | some r =>
    cases hba : lookupPair s.special b a with
    | some r' =>
      rcases h a b r hab with h' | h'
      · rw [hba] at h'; cases h'
      · rw [hba] at h'; simp only [Option.some.injEq] at h'; simp only [h']
    | none => rfl
  | none =>
    cases hba : lookupPair s.special b a with
    | some r' => rfl
    | none => simp only [Bool.or_comm]

theorem pairVerdict_symm (sc : Scene R) (s : Safety R) (h : SpecialConsistent s) (a b : Nat)
    (hi : sc.intersects a b = sc.intersects b a) (hd : sc.distance a b = sc.distance b a) :
    pairVerdict sc s a b = pairVerdict sc s b a := by
  unfold pairVerdict
  simp only [minDistance_symm s h a b, hi, hd]

/-- a scene with two environment objects, a tool and a base: 10 non-adjacent joint pairs, 6·2
joint–environment, 2 tool–environment, 4 joint–tool, 5 joint–base, 1 tool–base -/
example (ints : Nat → Nat → Bool) (dist : Nat → Nat → R) (near : Nat → Nat → R → Bool) :
    (relevantPairs (⟨2, true, true, ints, dist, near⟩ : Scene R)).length = 34 := by
  simp only [relevantPairs]; rfl

example (ints : Nat → Nat → Bool) (dist : Nat → Nat → R) (near : Nat → Nat → R → Bool) :
    relevantPairs (⟨1, true, false, ints, dist, near⟩ : Scene R) =
      [(0, 2), (0, 3), (0, 4), (0, 5), (1, 3), (1, 4), (1, 5), (2, 4), (2, 5), (3, 5),
       (0, envStart), (1, envStart), (2, envStart), (3, envStart), (4, envStart), (5, envStart),
       (jTool, envStart), (0, jTool), (1, jTool), (2, jTool), (3, jTool)] := by
  simp only [relevantPairs]; rfl

example (ints : Nat → Nat → Bool) (dist : Nat → Nat → R) (near : Nat → Nat → R → Bool) :
    relevantPairs (⟨0, false, false, ints, dist, near⟩ : Scene R) =
      [(0, 2), (0, 3), (0, 4), (0, 5), (1, 3), (1, 4), (1, 5), (2, 4), (2, 5), (3, 5)] := by
  simp only [relevantPairs]; rfl

example (ints : Nat → Nat → Bool) (dist : Nat → Nat → R) (near : Nat → Nat → R → Bool) (own : Safety R)
    (hall : ∀ a b, own.minDistance a b > neverCollides) (p : Nat × Nat) :
    p ∈ tasks (⟨2, true, true, ints, dist, near⟩ : Scene R) own [] ↔
      p ∈ relevantPairs (⟨2, true, true, ints, dist, near⟩ : Scene R) := by
  rw [mem_tasks_iff]
  constructor
  · exact fun h => h.1
  · intro h; exact ⟨h, .inl ((checkRequired_nil_relevant h).2 (hall _ _))⟩

end Opw.C10
