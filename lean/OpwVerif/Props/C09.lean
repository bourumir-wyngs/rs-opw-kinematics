/-
  C09 — Tool / Base / Frame wrapper stacks.

  "For a robot wrapped in any stack of tool, base and frame transforms, the forward pose is
  base * robot * tool (frame acts like a tool), every answer of every inverse entry point maps back
  through the same stack's forward onto the requested pose, and each entry point keeps its own
  contract through the stack.  Per-link poses are left unchanged by a tool, pre-multiplied by a
  base, and the last one equals forward for base and frame."

  The defining equations of `Kin.baseOf`, `Kin.toolOf`, `Kin.WF` (`Lemmas/Stack.lean`) and `Iso.Same`
  (`Lemmas/GeomReal.lean`) are restated first, as `rfl` theorems, so that the file can be read on its
  own; `Kin.plain` and `Kin.baseFrameOnly` are in `Lemmas/Sound.lean`.
  Kinds: [R] real arithmetic, [G] generic (any number type, holds of the Float reading itself).
-/
import OpwVerif.Lemmas.Stack
import OpwVerif.Props.C06
import OpwVerif.Props.C08
namespace Opw.C09

section Defs
variable {R : Type} [OpwNum R]

theorem baseOf_eqns (k : Opw R) (i : Kin R) (x : Iso R) :
    (Kin.opw k).baseOf = Iso.one ∧ (Kin.tool i x).baseOf = i.baseOf ∧
    (Kin.base i x).baseOf = x.mul i.baseOf ∧ (Kin.frame i x).baseOf = i.baseOf :=
  ⟨rfl, rfl, rfl, rfl⟩

theorem toolOf_eqns (k : Opw R) (i : Kin R) (x : Iso R) :
    (Kin.opw k).toolOf = Iso.one ∧ (Kin.tool i x).toolOf = i.toolOf.mul x ∧
    (Kin.base i x).toolOf = i.toolOf ∧ (Kin.frame i x).toolOf = i.toolOf.mul x :=
  ⟨rfl, rfl, rfl, rfl⟩

theorem WF_eqns (k : Opw ℝ) (i : Kin ℝ) (x : Iso ℝ) :
    ((Kin.opw k).WF ↔ True) ∧ ((Kin.tool i x).WF ↔ i.WF ∧ x.q.normSq = 1) ∧
    ((Kin.base i x).WF ↔ i.WF ∧ x.q.normSq = 1) ∧ ((Kin.frame i x).WF ↔ i.WF ∧ x.q.normSq = 1) :=
  ⟨Iff.rfl, Iff.rfl, Iff.rfl, Iff.rfl⟩

theorem same_iff (a b : Iso R) : Iso.Same a b ↔ a.t = b.t ∧ a.q.toMat = b.q.toMat := Iff.rfl

end Defs

/-- [R] `forward = (b_outer * … * b_inner) * robot.forward * (t_inner * … * t_outer)` for every stack
of Tool / Base / Frame wrappers with unit-quaternion transforms; a Frame counts as a Tool. -/
theorem stack_forward (k : Kin ℝ) (hp : k.plain) (hw : k.WF) (q : J6 ℝ) :
    k.forward q = k.baseOf.mul ((Opw.forward k.core.p q).mul k.toolOf) :=
  Kin.stack_forward k hp hw q

/-- [R] holds for any wrappers -/
theorem stack_forward_unit (k : Kin ℝ) (hw : k.WF) (q : J6 ℝ) : (k.forward q).q.normSq = 1 :=
  Kin.forward_unit k hw q

theorem pose_roundtrip_tool {t pose : Iso ℝ} (ht : t.q.normSq = 1) (hp : pose.q.normSq = 1) :
    (pose.mul t.inv).mul t = pose := Iso.inv_mul_cancel_right ht hp

/-- [R] (the hypothesis on `pose` is not used) -/
theorem pose_roundtrip_base {b pose : Iso ℝ} (hb : b.q.normSq = 1) (hp : pose.q.normSq = 1) :
    b.mul (b.inv.mul pose) = pose := Iso.mul_inv_cancel_left pose hb

/-- [R] Whenever the core's forward at `s` is the pose the core was asked for (`k.localPose pose`: the
wrappers stripped from outside in), the stack's forward at `s` is the requested pose. -/
theorem stack_maps_back (k : Kin ℝ) (hp : k.plain) (hw : k.WF) (pose : Iso ℝ)
    (hu : pose.q.normSq = 1) (s : J6 ℝ) (h : Opw.forward k.core.p s = k.localPose pose) :
    k.forward s = pose :=
  Kin.stack_maps_back k hp hw pose hu s h

/-- [R] … and conversely -/
theorem stack_maps_back_iff (k : Kin ℝ) (hp : k.plain) (hw : k.WF) (pose : Iso ℝ)
    (hu : pose.q.normSq = 1) (s : J6 ℝ) :
    k.forward s = pose ↔ Opw.forward k.core.p s = k.localPose pose :=
  Kin.stack_maps_back_iff k hp hw pose hu s

/-- [R] `Same` is a congruence for `Iso.mul`: on the left without side condition … -/
theorem same_mul_left {a b : Iso ℝ} (c : Iso ℝ) (h : Iso.Same a b) :
    Iso.Same (c.mul a) (c.mul b) := h.mul_left c

/-- [R] … on the right for unit quaternions -/
theorem same_mul_right {a b : Iso ℝ} (c : Iso ℝ) (ha : a.q.normSq = 1) (hb : b.q.normSq = 1)
    (h : Iso.Same a b) : Iso.Same (a.mul c) (b.mul c) := h.mul_right c ha hb

theorem same_mul {a b c d : Iso ℝ} (ha : a.q.normSq = 1) (hb : b.q.normSq = 1)
    (h1 : Iso.Same a b) (h2 : Iso.Same c d) : Iso.Same (a.mul c) (b.mul d) :=
  (h1.mul_right c ha hb).trans (h2.mul_left b)

/-- [R] why `Same` and not `=`: a quaternion and its negative are the same rigid motion … -/
theorem same_neg (a : Iso ℝ) : Iso.Same a ⟨a.t, a.q.neg⟩ := Iso.same_neg a

/-- [R] … and two isometries that are the `Same` move every point to the same place -/
theorem same_transformPoint {a b : Iso ℝ} (ha : a.q.normSq = 1) (hb : b.q.normSq = 1)
    (h : Iso.Same a b) (p : V3 ℝ) : a.transformPoint p = b.transformPoint p := by
  show (a.q.rotate p).add a.t = (b.q.rotate p).add b.t
  rw [Quat.rotate_eq_mulVec a.q ha, Quat.rotate_eq_mulVec b.q hb, h.1, h.2]

/-- [R] `stack_maps_back` with "same rigid motion" in place of equality -/
theorem stack_maps_back_same (k : Kin ℝ) (hp : k.plain) (hw : k.WF) (pose : Iso ℝ)
    (hu : pose.q.normSq = 1) (s : J6 ℝ)
    (h : Iso.Same (Opw.forward k.core.p s) (k.localPose pose)) : Iso.Same (k.forward s) pose :=
  Kin.stack_maps_back_same k hp hw pose hu s h

/-- [R] Headline for `inverse` (the other three entry points: `stack_answers_map_back'`): every
answer `s` of the stack is an answer of the core for the local pose, and IF the core's forward maps
`s` onto the local pose (exactly / as a rigid motion) then the same stack's forward maps `s` onto the
requested pose.  That the core's forward does so is not claimed here. -/
theorem stack_answers_map_back (k : Kin ℝ) (hp : k.plain) (hw : k.WF) (pose : Iso ℝ)
    (hu : pose.q.normSq = 1) (s : J6 ℝ) (hs : s ∈ k.inverse pose) :
    s ∈ k.core.inverse (k.localPose pose) ∧
    (Opw.forward k.core.p s = k.localPose pose → k.forward s = pose) ∧
    (Iso.Same (Opw.forward k.core.p s) (k.localPose pose) → Iso.Same (k.forward s) pose) :=
  ⟨C01.stack_inverse_eq hp pose ▸ hs, Kin.stack_maps_back k hp hw pose hu s,
    Kin.stack_maps_back_same k hp hw pose hu s⟩

theorem stack_answers_map_back' (k : Kin ℝ) (hp : k.plain) (hw : k.WF) (pose : Iso ℝ)
    (hu : pose.q.normSq = 1) (prev : J6 ℝ) (j6 : ℝ) (s : J6 ℝ)
    (hs : s ∈ k.inverseContinuing pose prev ∨ s ∈ k.inverse5dof pose j6 ∨
      s ∈ k.inverseContinuing5dof pose prev) :
    (s ∈ k.core.inverseContinuing (k.localPose pose) prev ∨
      s ∈ k.core.inverse5dof (k.localPose pose) j6 ∨
      s ∈ k.core.inverseContinuing5dof (k.localPose pose) prev) ∧
    (Opw.forward k.core.p s = k.localPose pose → k.forward s = pose) ∧
    (Iso.Same (Opw.forward k.core.p s) (k.localPose pose) → Iso.Same (k.forward s) pose) := by
  refine ⟨?_, Kin.stack_maps_back k hp hw pose hu s, Kin.stack_maps_back_same k hp hw pose hu s⟩
  rw [← C01.stack_inverseContinuing_eq hp, ← C01.stack_inverse5dof_eq hp,
    ← C01.stack_inverseContinuing5dof_eq hp]
  exact hs

/-! Delegation matrix: each theorem of this section is [G] and is the defining equation of the
wrapper's method. -/

section Delegation
variable {R : Type} [OpwNum R] (i : Kin R) (t b f pose : Iso R) (prev q : J6 R) (j6 : R)

theorem tool_inverse : (Kin.tool i t).inverse pose = i.inverse (pose.mul t.inv) := rfl
theorem tool_inverseContinuing :
    (Kin.tool i t).inverseContinuing pose prev = i.inverseContinuing (pose.mul t.inv) prev := rfl
theorem tool_inverse5dof :
    (Kin.tool i t).inverse5dof pose j6 = i.inverse5dof (pose.mul t.inv) j6 := rfl
theorem tool_inverseContinuing5dof :
    (Kin.tool i t).inverseContinuing5dof pose prev =
      i.inverseContinuing5dof (pose.mul t.inv) prev := rfl
theorem tool_forward : (Kin.tool i t).forward q = (i.forward q).mul t := rfl
/-- [G] per-link poses are left unchanged by a tool -/
theorem tool_links : (Kin.tool i t).links q = i.links q := rfl
theorem tool_singularity : (Kin.tool i t).singularity q = i.singularity q := rfl
omit [OpwNum R] in
theorem tool_constraints : (Kin.tool i t).constraints = i.constraints := rfl

theorem base_inverse : (Kin.base i b).inverse pose = i.inverse (b.inv.mul pose) := rfl
theorem base_inverseContinuing :
    (Kin.base i b).inverseContinuing pose prev = i.inverseContinuing (b.inv.mul pose) prev := rfl
theorem base_inverse5dof :
    (Kin.base i b).inverse5dof pose j6 = i.inverse5dof (b.inv.mul pose) j6 := rfl
theorem base_inverseContinuing5dof :
    (Kin.base i b).inverseContinuing5dof pose prev =
      i.inverseContinuing5dof (b.inv.mul pose) prev := rfl
theorem base_forward : (Kin.base i b).forward q = b.mul (i.forward q) := rfl
/-- [G] per-link poses are pre-multiplied by a base -/
theorem base_links : (Kin.base i b).links q = (i.links q).map (b.mul ·) := rfl
theorem base_singularity : (Kin.base i b).singularity q = i.singularity q := rfl
omit [OpwNum R] in
theorem base_constraints : (Kin.base i b).constraints = i.constraints := rfl

theorem frame_inverse : (Kin.frame i f).inverse pose = i.inverse (pose.mul f.inv) := rfl
theorem frame_inverseContinuing :
    (Kin.frame i f).inverseContinuing pose prev = i.inverseContinuing (pose.mul f.inv) prev := rfl
theorem frame_inverse5dof :
    (Kin.frame i f).inverse5dof pose j6 = i.inverse5dof (pose.mul f.inv) j6 := rfl
theorem frame_inverseContinuing5dof :
    (Kin.frame i f).inverseContinuing5dof pose prev =
      i.inverseContinuing5dof (pose.mul f.inv) prev := rfl
theorem frame_forward : (Kin.frame i f).forward q = (i.forward q).mul f := rfl
/-- [G] a frame post-multiplies the sixth link pose and keeps the first five -/
theorem frame_links {l1 l2 l3 l4 l5 l6 : Iso R} (h : i.links q = [l1, l2, l3, l4, l5, l6]) :
    (Kin.frame i f).links q = [l1, l2, l3, l4, l5, l6.mul f] := by
  simp only [Kin.links, h]
theorem frame_singularity : (Kin.frame i f).singularity q = i.singularity q := rfl
omit [OpwNum R] in
theorem frame_constraints : (Kin.frame i f).constraints = i.constraints := rfl

end Delegation

/-- [R] a single wrapper around the solver itself -/
theorem tool_forward_real (k : Opw ℝ) (t : Iso ℝ) (q : J6 ℝ) :
    (Kin.tool (.opw k) t).forward q = (Opw.forward k.p q).mul t := tool_forward (.opw k) t q
theorem base_forward_real (k : Opw ℝ) (b : Iso ℝ) (q : J6 ℝ) :
    (Kin.base (.opw k) b).forward q = b.mul (Opw.forward k.p q) := base_forward (.opw k) b q
theorem frame_forward_real (k : Opw ℝ) (f : Iso ℝ) (q : J6 ℝ) :
    (Kin.frame (.opw k) f).forward q = (Opw.forward k.p q).mul f := frame_forward (.opw k) f q

section Keeps
variable {R : Type} [OpwNum R]

/-- [G] For plain stacks the answer lists of all four inverse entry points are EXACTLY (same elements,
same order, same multiplicity) the core's answer lists for the local pose. -/
theorem stack_keeps_answers {k : Kin R} (hk : k.plain) (pose : Iso R) (prev : J6 R) (j6 : R) :
    k.inverse pose = k.core.inverse (k.localPose pose) ∧
    k.inverseContinuing pose prev = k.core.inverseContinuing (k.localPose pose) prev ∧
    k.inverse5dof pose j6 = k.core.inverse5dof (k.localPose pose) j6 ∧
    k.inverseContinuing5dof pose prev = k.core.inverseContinuing5dof (k.localPose pose) prev :=
  ⟨C01.stack_inverse_eq hk pose, C01.stack_inverseContinuing_eq hk pose prev,
    C01.stack_inverse5dof_eq hk pose j6, C01.stack_inverseContinuing5dof_eq hk pose prev⟩

/-- [G] hence ANY property of the core's answer list (soundness C01, ordering C04, constraint
compliance C08, …) is a property of the stack's answer list. -/
theorem stack_keeps_contract {k : Kin R} (hk : k.plain) (pose : Iso R) (prev : J6 R) (j6 : R)
    (P : List (J6 R) → Prop) :
    (P (k.core.inverse (k.localPose pose)) → P (k.inverse pose)) ∧
    (P (k.core.inverseContinuing (k.localPose pose) prev) → P (k.inverseContinuing pose prev)) ∧
    (P (k.core.inverse5dof (k.localPose pose) j6) → P (k.inverse5dof pose j6)) ∧
    (P (k.core.inverseContinuing5dof (k.localPose pose) prev) →
      P (k.inverseContinuing5dof pose prev)) := by
  obtain ⟨h1, h2, h3, h4⟩ := stack_keeps_answers hk pose prev j6
  rw [h1, h2, h3, h4]
  exact ⟨id, id, id, id⟩

/-- [G] ordering (C04) survives -/
theorem stack_keeps_order {k : Kin R} (hk : k.plain) (pose : Iso R) (prev : J6 R)
    (r : J6 R → J6 R → Prop)
    (h : (k.core.inverseContinuing (k.localPose pose) prev).Pairwise r) :
    (k.inverseContinuing pose prev).Pairwise r :=
  (stack_keeps_contract hk pose prev prev.j6 (List.Pairwise r)).2.1 h

/-- [G] J6 pass-through (C06) survives -/
theorem stack_keeps_j6 {k : Kin R} (hk : k.plain) {pose : Iso R} {j6 : R} {s : J6 R}
    (h : s ∈ k.inverse5dof pose j6) : s.j6 = j6 :=
  C06.plain_stack_inverse5_j6 hk h

/-- [G] singularity verdict and constraints are those of the core, for EVERY wrapper stack -/
theorem stack_singularity : ∀ (k : Kin R) (q : J6 R),
    k.singularity q = kinematicSingularity k.core.p q := by
  intro k q
  induction k with
  | opw _ => rfl
  | tool _ _ ih | base _ _ ih | frame _ _ ih | para _ _ _ _ ih | shape _ _ ih => exact ih

omit [OpwNum R] in
theorem stack_constraints : ∀ (k : Kin R), k.constraints = k.core.cons :=
  C08.wrapper_constraints

end Keeps

/-- [R] Base and Frame over the core: there are six link poses and the last one is the same rigid
motion as `forward` (the quaternions may differ by sign: `forward` goes through
`from_rotation_matrix`). -/
theorem last_link_same_forward (k : Kin ℝ) (hb : k.baseFrameOnly) (hw : k.WF) (q : J6 ℝ) :
    ∃ l, (k.links q).length = 6 ∧ (k.links q)[5]? = some l ∧ (k.links q).getLast? = some l ∧
      Iso.Same (k.forward q) l ∧ l.q.normSq = 1 := by
  obtain ⟨l1, l2, l3, l4, l5, l6, hl, hs, hu⟩ := Kin.links_last k hb hw q
  rw [hl]
  exact ⟨l6, rfl, rfl, rfl, hs, hu⟩

/-- [R] a Tool on top does NOT move the last link: `forward = last_link * tool` as rigid motions -/
theorem last_link_tool (k : Kin ℝ) (hb : k.baseFrameOnly) (hw : k.WF) (t : Iso ℝ) (q : J6 ℝ) :
    ∃ l, ((Kin.tool k t).links q)[5]? = some l ∧ Iso.Same ((Kin.tool k t).forward q) (l.mul t) := by
  obtain ⟨l1, l2, l3, l4, l5, l6, hl, hs, hu⟩ := Kin.links_last k hb hw q
  refine ⟨l6, ?_, hs.mul_right t (Kin.forward_unit k hw q) hu⟩
  show (k.links q)[5]? = some l6
  rw [hl]; rfl

section Axis
variable {R : Type} [OpwNum R] (robot : Kin R) (base : Iso R) (d : R) (tr : V3 R) (q : J6 R)
open scoped GenericNum

/-- [G] `LinearAxis::forward` = `base * translate(axis, distance) * robot.forward` -/
theorem linearAxis_x : linearAxisForward robot 0 base d q =
    some ((base.mul (Iso.ofTranslation ⟨d, 0, 0⟩)).mul (robot.forward q)) := rfl
theorem linearAxis_y : linearAxisForward robot 1 base d q =
    some ((base.mul (Iso.ofTranslation ⟨0, d, 0⟩)).mul (robot.forward q)) := rfl
theorem linearAxis_z : linearAxisForward robot 2 base d q =
    some ((base.mul (Iso.ofTranslation ⟨0, 0, d⟩)).mul (robot.forward q)) := rfl

/-- [G] an axis index above 2 has no result (`none` models the `panic!`) -/
theorem linearAxis_invalid : ∀ (axis : Nat), 2 < axis → linearAxisForward robot axis base d q = none
  | 0, h => absurd h (by decide)
  | 1, h => absurd h (by decide)
  | 2, h => absurd h (by decide)
  | _ + 3, _ => rfl

theorem linearAxis_isSome (axis : Nat) :
    (linearAxisForward robot axis base d q).isSome = true ↔ axis ≤ 2 := by
  match axis with
  | 0 => exact ⟨fun _ => by decide, fun _ => rfl⟩
  | 1 => exact ⟨fun _ => by decide, fun _ => rfl⟩
  | 2 => exact ⟨fun _ => by decide, fun _ => rfl⟩
  | n + 3 =>
    have h3 : 2 < n + 3 := Nat.le_add_left 3 n
    rw [linearAxis_invalid robot base d q (n + 3) h3]
    exact ⟨fun h => absurd h Bool.false_ne_true, fun h => absurd h (Nat.not_le.2 h3)⟩

/-- [G] `Gantry::forward`; it is a Base wrapper with the combined transform -/
theorem gantry_forward :
    gantryForward robot base tr q = (base.mul (Iso.ofTranslation tr)).mul (robot.forward q) := rfl
theorem gantry_is_base :
    gantryForward robot base tr q = (Kin.base robot (base.mul (Iso.ofTranslation tr))).forward q :=
  rfl

end Axis

/-- [R] over the reals the product can be bracketed either way -/
theorem gantry_forward_assoc (robot : Kin ℝ) (base : Iso ℝ) (hb : base.q.normSq = 1) (tr : V3 ℝ)
    (q : J6 ℝ) :
    gantryForward robot base tr q = base.mul ((Iso.ofTranslation tr).mul (robot.forward q)) :=
  Iso.mul_assoc base (Iso.ofTranslation tr) _ hb Quat.normSq_one

theorem linearAxis_forward_assoc (robot : Kin ℝ) (base : Iso ℝ) (hb : base.q.normSq = 1) (d : ℝ)
    (q : J6 ℝ) (axis : Nat) (r : Iso ℝ) (h : linearAxisForward robot axis base d q = some r) :
    ∃ v : V3 ℝ, r = base.mul ((Iso.ofTranslation v).mul (robot.forward q)) ∧
      v.normSq = d * d := by
  obtain ⟨v, hv, rfl⟩ := Option.map_eq_some_iff.mp h
  refine ⟨v, Iso.mul_assoc base _ _ hb Quat.normSq_one, ?_⟩
  -- `v` is `d` along one axis
  split at hv <;> cases hv <;> simp only [V3.normSq_eq, lit0, mul_zero, add_zero, zero_add]

/-- a tool 1 unit along z, no rotation -/
noncomputable def exTool : Iso ℝ := ⟨⟨0, 0, 1⟩, ⟨1, 0, 0, 0⟩⟩
/-- a base at (1, 2, 3), turned half a turn about z -/
noncomputable def exBase : Iso ℝ := ⟨⟨1, 2, 3⟩, ⟨0, 0, 0, 1⟩⟩

theorem exTool_unit : exTool.q.normSq = 1 := by
  show (1 : ℝ) * 1 + 0 * 0 + 0 * 0 + 0 * 0 = 1; norm_num
theorem exBase_unit : exBase.q.normSq = 1 := by
  show (0 : ℝ) * 0 + 0 * 0 + 0 * 0 + 1 * 1 = 1; norm_num

noncomputable def exStack (k : Opw ℝ) : Kin ℝ := .base (.tool (.opw k) exTool) exBase
noncomputable def exStackBF (k : Opw ℝ) : Kin ℝ := .frame (.base (.opw k) exBase) exTool

theorem exStack_plain (k : Opw ℝ) : (exStack k).plain := trivial
theorem exStack_WF (k : Opw ℝ) : (exStack k).WF := ⟨⟨trivial, exTool_unit⟩, exBase_unit⟩
theorem exStackBF_bf (k : Opw ℝ) : (exStackBF k).baseFrameOnly := trivial
theorem exStackBF_WF (k : Opw ℝ) : (exStackBF k).WF := ⟨⟨trivial, exBase_unit⟩, exTool_unit⟩

example (k : Opw ℝ) (q : J6 ℝ) :
    (exStack k).forward q = exBase.mul ((Opw.forward k.p q).mul exTool) := by
  have h := stack_forward (exStack k) (exStack_plain k) (exStack_WF k) q
  have hb : (exStack k).baseOf = exBase := Iso.mul_one exBase
  have ht : (exStack k).toolOf = exTool := Iso.one_mul exTool
  rw [hb, ht] at h
  exact h

example (k : Opw ℝ) (pose : Iso ℝ) (hu : pose.q.normSq = 1) (s : J6 ℝ)
    (h : Opw.forward k.p s = (exBase.inv.mul pose).mul exTool.inv) : (exStack k).forward s = pose :=
  stack_maps_back (exStack k) (exStack_plain k) (exStack_WF k) pose hu s h

example (k : Opw ℝ) (pose : Iso ℝ) (hu : pose.q.normSq = 1) (s : J6 ℝ)
    (h : Iso.Same (Opw.forward k.p s) ((exBase.inv.mul pose).mul exTool.inv)) :
    Iso.Same ((exStack k).forward s) pose :=
  stack_maps_back_same (exStack k) (exStack_plain k) (exStack_WF k) pose hu s h

example (k : Opw ℝ) (pose : Iso ℝ) :
    (exStack k).inverse pose = k.inverse ((exBase.inv.mul pose).mul exTool.inv) :=
  (stack_keeps_answers (exStack_plain k) pose default 0).1

example (k : Opw ℝ) (q : J6 ℝ) :
    ∃ l, ((exStackBF k).links q)[5]? = some l ∧ Iso.Same ((exStackBF k).forward q) l := by
  obtain ⟨l, _, h5, _, hs, _⟩ := last_link_same_forward (exStackBF k) (exStackBF_bf k) (exStackBF_WF k) q
  exact ⟨l, h5, hs⟩

/-- the `Float` stack of `Sound.lean` -/
example {s : J6 Float} (h : s ∈ Ex.stack5.inverse5dof Ex.pose 0.25) : s.j6 = 0.25 :=
  stack_keeps_j6 Ex.stack5_plain h

example : Ex.stack6.inverse Ex.pose =
    Ex.k6c.inverse ((Ex.tcp.inv.mul (Ex.pose.mul Ex.tcp.inv)).mul Ex.tcp.inv) :=
  (stack_keeps_answers Ex.stack6_plain Ex.pose Ex.prev 0).1

example (q : J6 Float) : linearAxisForward Ex.stack6 3 Ex.tcp 0.5 q = none :=
  linearAxis_invalid _ _ _ _ 3 (by decide)

end Opw.C09
