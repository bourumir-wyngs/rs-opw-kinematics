/-
  C02 ("no duplicates" part) — the answer set of the closed-form inverse kinematics for the pose
  of a non-singular configuration contains no two answers that are equal, not even modulo whole
  turns of the joints.

  The model text of `Kin.lean` in exact real arithmetic; the argument is in `Lemmas/IkDistinct.lean`.
  Why two rows of the candidate list differ: rows `k` and `k+4` are wrist-flip twins, `θ4` differs by
  `π`; front and back shoulder differ in `θ1` by an angle in `(0, 2π)`; the two elbow branches of
  one shoulder differ in `θ3` by `2·acos(..) ∈ (0, 2π)`.

  THE EXTRA ASSUMPTION.  `OtherShoulderRegular p θ`: `|otherS2 p θ − c2² − κ²| < 2·c2·κ`, where
  `otherS2` is the squared distance from the J2 axis to the wrist centre after J1 is turned by half
  a turn; for `a1 = 0` it follows from `NonSingular`.  `NonSingular p θ` speaks about the shoulder,
  elbow and wrist of `θ` itself, but four of the eight raw candidates belong to the other shoulder
  configuration, whose elbow angle is `acos` of a different ratio.  When that ratio is outside
  `(−1, 1)` (possible only when `a1 ≠ 0`), `Real.arccos` returns `0` or `π` (the IEEE `acos` returns
  NaN outside `[−1, 1]` and the candidate is dropped) and the two elbow branches of that shoulder
  give THE SAME vector: `candidates_duplicate_of_unreachable` proves this for the RAW candidates.
  Nothing is proved about the ANSWERS in that case: strictly out of reach the coinciding rows should
  fail the cross-check (as in the instance `pFar`), and the boundary case, where they would pass it
  and give a repeated answer, is not treated.  What holds with `NonSingular` alone is
  `inverse_returns_exactly_once`: the configuration itself (and its wrist-flipped twin) occupies
  exactly one position.
-/
import OpwVerif.Lemmas.IkDistinct
import OpwVerif.Props.C02b
namespace Opw.C02c
open Opw Opw.Wrist Opw.C02 Opw.IkComplete Opw.IkDistinct

/-- C02, no duplicates among the raw candidates, ANY pose: if the two shoulder angles
`θ1_i`, `θ1_ii` are not congruent and both elbow `acos` values `tmp11`, `tmp12` lie strictly
between `0` and `π`, no two positions of the candidate list hold congruent vectors. -/
theorem candidates_pairwise_distinct_of (p : Params ℝ) (pose : Iso ℝ)
    (h1 : ¬ TurnEq (th1i p (wc p pose)) (th1ii p (wc p pose)))
    (h11 : 0 < tmp11 p (wc p pose) ∧ tmp11 p (wc p pose) < Real.pi)
    (h12 : 0 < tmp12 p (wc p pose) ∧ tmp12 p (wc p pose) < Real.pi) :
    List.Pairwise (fun a b => ¬ J6TurnEq a b) (thetaCandidates p pose) :=
  pairwise_of_match_unique fun τ =>
    candidates_match_unique_of p pose τ h1 (fun _ => h11) fun _ => h12

/-- C02, no duplicates among the raw candidates: for a joint vector `j` whose θ is non-singular
and whose other shoulder configuration is regular, two different positions of the candidate list of
the pose `forward p j` hold vectors that are NOT congruent modulo whole turns (all 28 pairs). -/
theorem candidates_distinct_index (p : Params ℝ) (j : J6 ℝ) (h : NonSingular p (thetaOf p j))
    (ho : OtherShoulderRegular p (thetaOf p j)) (i k : ℕ)
    (hi : i < (thetaCandidates p (forward p j)).length)
    (hk : k < (thetaCandidates p (forward p j)).length) (hik : i ≠ k) :
    ¬ J6TurnEq (thetaCandidates p (forward p j))[i] (thetaCandidates p (forward p j))[k] := by
  have hp := List.pairwise_iff_getElem.mp (candidates_pairwise p (thetaOf p j) h ho)
  rcases lt_or_gt_of_ne hik with hlt | hgt
  · exact hp i k hi hk hlt
  · exact fun g => hp k i hk hi hgt g.symm

/-- for a robot with `a1 = 0` non-singularity of `θ` alone suffices -/
theorem candidates_pairwise_distinct_a1_zero (p : Params ℝ) (ha : p.a1 = 0) (j : J6 ℝ)
    (h : NonSingular p (thetaOf p j)) :
    List.Pairwise (fun a b => ¬ J6TurnEq a b) (thetaCandidates p (forward p j)) :=
  candidates_pairwise p (thetaOf p j) h (otherShoulderRegular_of_a1_zero p _ h ha)

/-- sharpness for the RAW candidate list: for a front-shoulder configuration whose wrist centre is
out of reach of the back-shoulder arm, rows 2 and 3 of the candidate list are THE SAME vector (both
elbow `acos` are clamped to `0` by `Real.arccos`), so the assumption on the other shoulder cannot be
dropped from `candidates_distinct_index`. -/
theorem candidates_duplicate_of_unreachable (p : Params ℝ) (θ : J6 ℝ) (hc : 0 < p.c2)
    (hk : 0 < kappa p) (hf : 0 < cx1 p θ) (hfar : (p.c2 + kappa p) ^ 2 ≤ otherS2 p θ) :
    ¬ (thetaCandidates p (poseOf p θ)).Nodup := by
  rw [thetaCandidates_eq, wc_poseOf,
    back_pair_eq_of_far p _ _ hc hk (by rw [s2sq_front_other p θ hf]; exact hfar)]
  intro hn
  exact (List.nodup_cons.mp (List.nodup_cons.mp (List.nodup_cons.mp hn).2).2).1 List.mem_cons_self

/-- C02, no duplicates: `inverse_intern`, asked for the pose of a regular non-singular joint
vector, returns no two answers (at different positions of the list) that are congruent modulo whole
turns of the joints. -/
theorem inverseIntern_no_duplicates (p : Params ℝ) (hs : SignsOk p) (j : J6 ℝ)
    (h : NonSingular p (thetaOf p j)) (ho : OtherShoulderRegular p (thetaOf p j)) :
    List.Pairwise (fun a b => ¬ J6TurnEq a b) (inverseIntern p (forward p j)) :=
  inverseIntern_pairwise_of p hs _ (candidates_pairwise p (thetaOf p j) h ho)

/-- the same in θ-space -/
theorem inverseIntern_no_duplicates_theta (p : Params ℝ) (hs : SignsOk p) (j : J6 ℝ)
    (h : NonSingular p (thetaOf p j)) (ho : OtherShoulderRegular p (thetaOf p j)) :
    List.Pairwise (fun a b => ¬ J6TurnEq (thetaOf p a) (thetaOf p b))
      (inverseIntern p (forward p j)) :=
  List.Pairwise.imp (fun {a b} hn g => hn ((thetaOf_turnEq_iff p hs a b).mp g))
    (inverseIntern_no_duplicates p hs j h ho)

theorem inverseIntern_nodup (p : Params ℝ) (hs : SignsOk p) (j : J6 ℝ)
    (h : NonSingular p (thetaOf p j)) (ho : OtherShoulderRegular p (thetaOf p j)) :
    (inverseIntern p (forward p j)).Nodup :=
  nodup_of_pairwise (inverseIntern_no_duplicates p hs j h ho)

/-- C02, no duplicates, public `inverse` of a robot not declared 5-DOF, WITH OR WITHOUT
constraints (the constraint filter only removes answers): no two answers congruent modulo whole
turns. -/
theorem inverse_no_duplicates (k : Opw ℝ) (hs : SignsOk k.p) (hdof : k.p.dof ≠ 5) (j : J6 ℝ)
    (h : NonSingular k.p (thetaOf k.p j)) (ho : OtherShoulderRegular k.p (thetaOf k.p j)) :
    List.Pairwise (fun a b => ¬ J6TurnEq a b) (k.inverse (forward k.p j)) := by
  rw [Opw.inverse_of_dof6 hdof]
  exact List.Pairwise.sublist (Nearest.filterCompliant_sublist k _) (inverseIntern_no_duplicates k.p hs j h ho)

/-- C02, no duplicates: `inverse` on the pose of `j` returns no vector twice -/
theorem inverse_nodup (k : Opw ℝ) (hs : SignsOk k.p) (hdof : k.p.dof ≠ 5) (j : J6 ℝ)
    (h : NonSingular k.p (thetaOf k.p j)) (ho : OtherShoulderRegular k.p (thetaOf k.p j)) :
    (k.inverse (forward k.p j)).Nodup :=
  nodup_of_pairwise (inverse_no_duplicates k hs hdof j h ho)

/-- for a robot with `a1 = 0`: non-singularity of `j` alone suffices -/
theorem inverse_nodup_a1_zero (k : Opw ℝ) (hs : SignsOk k.p) (hdof : k.p.dof ≠ 5)
    (ha : k.p.a1 = 0) (j : J6 ℝ) (h : NonSingular k.p (thetaOf k.p j)) :
    List.Pairwise (fun a b => ¬ J6TurnEq a b) (k.inverse (forward k.p j)) ∧
      (k.inverse (forward k.p j)).Nodup :=
  ⟨inverse_no_duplicates k hs hdof j h (otherShoulderRegular_of_a1_zero k.p _ h ha),
   inverse_nodup k hs hdof j h (otherShoulderRegular_of_a1_zero k.p _ h ha)⟩

/-- C02, same size: the answer congruent to `j` and its wrist-flipped twin both reproduce the
requested pose exactly (quaternion included), so the answer lists computed for their poses have the
same size -/
theorem same_count_of_match (p : Params ℝ) (hs : SignsOk p) (j : J6 ℝ)
    (h : NonSingular p (thetaOf p j)) :
    ∃ s ∈ inverseIntern p (forward p j), ∃ s' ∈ inverseIntern p (forward p j),
      J6TurnEq (thetaOf p s) (thetaOf p j) ∧ J6TurnEq (thetaOf p s') (flip (thetaOf p s)) ∧
      (inverseIntern p (forward p s)).length = (inverseIntern p (forward p j)).length ∧
      (inverseIntern p (forward p s')).length = (inverseIntern p (forward p j)).length := by
  obtain ⟨s, hs1, hs2, hs3⟩ := C02b.ik_complete p hs j h
  obtain ⟨s', hs1', hs2', hs3'⟩ := inverseIntern_flip_closed p hs _ s hs1
  exact ⟨s, hs1, s', hs1', hs2, hs2', by rw [hs3], by rw [hs3', hs3]⟩

/-- with `NonSingular` alone: at most one position of the answer list of `inverse_intern` holds
an answer whose θ is congruent to a given `τ` on the shoulder of `j` -/
theorem inverseIntern_match_unique (p : Params ℝ) (hs : SignsOk p) (j : J6 ℝ)
    (h : NonSingular p (thetaOf p j)) (τ : J6 ℝ) (hτ : TurnEq τ.j1 (thetaOf p j).j1) :
    List.Pairwise (fun s s' => ¬ (J6TurnEq (thetaOf p s) τ ∧ J6TurnEq (thetaOf p s') τ))
      (inverseIntern p (forward p j)) :=
  inverseIntern_pairwise_transport p _
    (fun a a' hR g => hR ⟨(thetaOf_finish_turnEq p hs a).symm.trans g.1,
      (thetaOf_finish_turnEq p hs a').symm.trans g.2⟩)
    (candidates_match_unique p (thetaOf p j) h τ hτ)

/-- C02, "returns that configuration" exactly once (`NonSingular` alone, any `a1`): the answer
list of `inverse_intern` for the pose of `j` contains an answer congruent to `j`, and no two
positions of the list hold answers congruent to `j`; the same for the wrist-flipped twin of `j`. -/
theorem inverse_returns_exactly_once (p : Params ℝ) (hs : SignsOk p) (j : J6 ℝ)
    (h : NonSingular p (thetaOf p j)) :
    (∃ s ∈ inverseIntern p (forward p j), J6TurnEq s j) ∧
    List.Pairwise (fun s s' => ¬ (J6TurnEq s j ∧ J6TurnEq s' j)) (inverseIntern p (forward p j)) ∧
    (∃ s ∈ inverseIntern p (forward p j), J6TurnEq (thetaOf p s) (flip (thetaOf p j))) ∧
    List.Pairwise (fun s s' => ¬ (J6TurnEq (thetaOf p s) (flip (thetaOf p j)) ∧
      J6TurnEq (thetaOf p s') (flip (thetaOf p j)))) (inverseIntern p (forward p j)) := by
  refine ⟨ik_complete_intern_joint p hs j h, ?_, ?_,
    inverseIntern_match_unique p hs j h _ (TurnEq.refl _)⟩
  · exact List.Pairwise.imp
      (fun {a b} hn g => hn ⟨thetaOf_turnEq p hs g.1, thetaOf_turnEq p hs g.2⟩)
      (inverseIntern_match_unique p hs j h (thetaOf p j) (TurnEq.refl _))
  · obtain ⟨s, -, s', hs1', hs2, hs2', -⟩ := same_count_of_match p hs j h
    exact ⟨s', hs1', hs2'.trans (flip_turnEq hs2)⟩

/-- the number of answers of `inverse_intern` is the number of raw candidates whose normalised
joint vector passes the forward cross-check (over ℝ every candidate is finite) -/
theorem inverse_count (p : Params ℝ) (pose : Iso ℝ) :
    (inverseIntern p pose).length =
      (thetaCandidates p pose).countP
        (fun t => comparePoses pose (forward p ((jointsOf p t).map normPi)) distTol angTol) := by
  unfold inverseIntern
  rw [List.length_filterMap_eq_countP]
  congr 1
  funext t
  exact finishCandidate_isSome p pose _

/-- for the pose of a non-singular joint vector `inverse_intern` returns at least two answers (the
configuration and its wrist-flipped twin are different answers) and at most eight -/
theorem inverse_count_bounds (p : Params ℝ) (hs : SignsOk p) (j : J6 ℝ)
    (h : NonSingular p (thetaOf p j)) :
    2 ≤ (inverseIntern p (forward p j)).length ∧ (inverseIntern p (forward p j)).length ≤ 8 := by
  constructor
  · obtain ⟨s, hs1, s', hs1', -, hs2', -⟩ := same_count_of_match p hs j h
    refine two_le_length_of_mem_ne hs1 hs1' ?_
    rintro rfl
    exact flip_not_turnEq _ hs2'
  · exact List.length_filterMap_le _ _

open Opw.C02b in
/-- non-vacuity: `pEx` (`a1 = 0.025 ≠ 0`) and `jEx` of C02b satisfy the extra assumption:
`|otherS2 − c2² − κ²| = 0.06105 < 0.63·κ` -/
theorem otherShoulderRegular_ex : OtherShoulderRegular pEx (thetaOf pEx jEx) := by
  have hk : 0.3 < kappa pEx := (Real.lt_sqrt (by norm_num)).mpr (by simp only [pEx]; norm_num)
  rw [thetaOf_jEx]
  unfold OtherShoulderRegular otherS2
  rw [armX_upright, cz1_upright, ← kappa2_eq]
  have e : (pEx.c3 + 2 * pEx.a1) ^ 2 + (pEx.c2 - pEx.a2) ^ 2 - pEx.c2 ^ 2 - kappa2 pEx = 0.06105 := by
    simp only [kappa2, pEx]; norm_num
  rw [e, abs_of_pos (by norm_num), show pEx.c2 = 0.315 from rfl]
  exact (by norm_num : (0.06105 : ℝ) < 2 * 0.315 * 0.3).trans (mul_lt_mul_of_pos_left hk (by norm_num))

open Opw.C02b in
/-- the hypotheses of `inverse_nodup` are jointly satisfiable -/
example : ((⟨pEx, none⟩ : Opw ℝ).inverse (forward pEx jEx)).Nodup :=
  inverse_nodup ⟨pEx, none⟩ signsOk_pEx (by decide) jEx nonSingular_ex otherShoulderRegular_ex

open Opw.C02b in
example : List.Pairwise (fun a b => ¬ J6TurnEq a b) (thetaCandidates pEx (forward pEx jEx)) :=
  candidates_pairwise pEx _ nonSingular_ex otherShoulderRegular_ex

open Opw.C02b in
example : 2 ≤ (inverseIntern pEx (forward pEx jEx)).length ∧
    (inverseIntern pEx (forward pEx jEx)).length ≤ 8 :=
  inverse_count_bounds pEx signsOk_pEx jEx nonSingular_ex

/-- a robot with a long shoulder offset `a1`: the back-shoulder arm cannot reach the wrist centre -/
noncomputable def pFar : Params ℝ :=
  { a1 := 1, a2 := 0, b := 0, c1 := 0, c2 := 1, c3 := 1, c4 := 0,
    offsets := ⟨0, 0, 0, 0, 0, 0⟩, signs := ⟨1, 1, 1, 1, 1, 1⟩, dof := 6 }

/-- arm horizontal, elbow and wrist at right angles -/
noncomputable def θFar : J6 ℝ := ⟨0, 0, Real.pi / 2, 0, Real.pi / 2, 0⟩

theorem kappa_pFar : kappa pFar = 1 := by
  show Real.sqrt ((0 : ℝ) * 0 + 1 * 1) = 1
  norm_num

theorem cx1_far : cx1 pFar θFar = 1 + 1 := congrArg (· + (1 : ℝ)) (armX_upright pFar 0 0 _ 0)

theorem cz1_far : cz1 pFar θFar = 1 :=
  (cz1_upright pFar 0 0 _ 0).trans (sub_zero 1)

theorem cx1_far_pos : 0 < cx1 pFar θFar := by rw [cx1_far]; exact add_pos one_pos one_pos

/-- the configuration is NOT at a shoulder, elbow or wrist singularity … -/
theorem nonSingular_far : NonSingular pFar θFar := by
  refine ⟨one_pos, by rw [kappa_pFar]; exact one_pos, cx1_far_pos.ne', ?_, ?_⟩
  · show Real.sin (Real.pi / 2 + psi3 pFar) ≠ 0
    rw [show psi3 pFar = 0 from Nearest.arg_mk_im_zero 1 zero_le_one, add_zero, Real.sin_pi_div_two]
    exact one_ne_zero
  · show Real.sin (Real.pi / 2) ≠ 0
    rw [Real.sin_pi_div_two]; exact one_ne_zero

/-- … and yet the raw candidate list of its pose contains a repeated vector: the hypotheses of
`candidates_duplicate_of_unreachable` are satisfiable together with `NonSingular` -/
example : NonSingular pFar θFar ∧ ¬ (thetaCandidates pFar (poseOf pFar θFar)).Nodup := by
  refine ⟨nonSingular_far, candidates_duplicate_of_unreachable pFar θFar nonSingular_far.c2_pos
    nonSingular_far.kappa_pos cx1_far_pos ?_⟩
  unfold otherS2
  rw [cz1_far, θFar, armX_upright, kappa_pFar]
  show ((1 : ℝ) + 1) ^ 2 ≤ (1 + 2 * 1) ^ 2 + 1 ^ 2
  norm_num

end Opw.C02c
