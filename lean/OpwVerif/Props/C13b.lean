/-
  C13 (addendum) — what `plan_rrt` makes of `dual_rrt_connect`: the acceptance test of a tree node is the closure that the
  translator reads from the CURRENT text of `RRTPlanner::plan_path` (`Generated/SrcRrt.lean`, rewritten by
  `tools/rs2lean_rrt.py` on every run): "inside the joint limits of the robot AND not reported colliding by the same robot".
  With the generic theorems of `Props/C13.lean` this gives the statement of the property for the real planner entry point:
  every interior node of a returned path is a six-joint vector that is within limits and collision-free.  (Cancellation is
  not restated here: `C13.cancel` and `C13.path_before_stop` hold for every acceptance test, this one included.)
  Generic in the number type.
-/
import OpwVerif.Props.C13
import OpwVerif.Generated.SrcRrt
namespace Opw.C13b

variable {R : Type} [OpwNum R]

/-- what acceptance by the source's closure means -/
theorem collisionFree_spec (cons : Option (Constraints R)) (collides : J6 R → Bool) (q : List R)
    (h : SrcRrt.collisionFreeSrc cons collides q = true) :
    ∃ j : J6 R, q = [j.j1, j.j2, j.j3, j.j4, j.j5, j.j6] ∧ (∀ c, cons = some c → c.compliant j = true) ∧ collides j = false := by
  unfold SrcRrt.collisionFreeSrc at h
  split at h
  · next a b c d e f =>
    rw [Bool.and_eq_true, Bool.not_eq_true'] at h
    exact ⟨⟨a, b, c, d, e, f⟩, rfl, fun cc hcc => by subst hcc; exact h.1, h.2⟩
  · cases h

/-- C13 for the planner entry point `plan_rrt`: for every robot (`cons`, `collides`), sample stream, step, try budget and
cancellation history -/
theorem plan_rrt_nodes_legal_and_free (cons : Option (Constraints R)) (collides : J6 R → Bool)
    {start goal : Cfg R} {samples : List (Cfg R)} {ext : R} {maxTry : Nat} {stop : Nat → Bool} {p : List (Cfg R)}
    (h : dualRrtConnect start goal (SrcRrt.collisionFreeSrc cons collides) samples ext maxTry stop = .path p)
    (k : Nat) (h1 : 0 < k) (h2 : k + 1 < p.length) :
    ∃ j : J6 R, p[k]'(by omega) = [j.j1, j.j2, j.j3, j.j4, j.j5, j.j6] ∧ (∀ c, cons = some c → c.compliant j = true) ∧
      collides j = false :=
  collisionFree_spec cons collides _ (C13.path_free h k h1 h2)

/-- non-vacuity: a vector inside the limits that the robot reports free is accepted -/
example (c : Constraints R) (collides : J6 R → Bool) (j : J6 R) (hc : c.compliant j = true) (hf : collides j = false) :
    SrcRrt.collisionFreeSrc (some c) collides [j.j1, j.j2, j.j3, j.j4, j.j5, j.j6] = true := by
  cases j
  simp_all [SrcRrt.collisionFreeSrc]

end Opw.C13b
