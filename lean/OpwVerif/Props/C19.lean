/-
  C19 — Parameter YAML: any parameter set serialised by the library parses back to the same
  geometry, sign corrections and degrees of freedom, with offsets equal to the printed precision.
  Files in the documented format parse whether numbers are written as integers or reals, angles
  as plain radians or `deg(...)`, arrays with five or six entries, and the degrees-of-freedom entry
  where the documentation shows it; malformed files yield an error value, never a panic.

  Level: the parsed YAML tree (`Yaml R`, model in `OpwVerif/Yaml.lean`).  Text ↔ tree (yaml-rust2)
  and decimal text ↔ `f64` (Rust's float printer/parser) are libraries; they enter through the
  oracle values carried by scalar leaves and through the two leaf contracts `LenLeaf`, `OffLeaf`.
  Every theorem holds for all trees, all leaf oracles and every number type `R` (`OpwNum R` has no
  laws and none are used).  Vocabulary (`HasKey`, `NoKey`, `geoNum`, `signsOf`, `offsOf`, `dofOf`,
  `firstMissing`, `checkSix`): `Lemmas/YamlLemmas.lean`.
-/
import OpwVerif.Lemmas.YamlLemmas
namespace Opw.C19
open Opw.YamlL
variable {R : Type} [OpwNum R]
-- many statements below do not use `OpwNum R`; all carry the binder
set_option linter.unusedSectionVars false

/-- TRUSTED: what the writer prints for a length `x` lexes to a node that the reader's `as_number` maps
back to `x` (a real whose `as_f64` is `x`, or an integer `i` with `i as f64 = x`: `lenLeaf_of_shapes`) -/
def LenLeaf (ofInt : Int → R) (leaf : R → Yaml R) : Prop :=
  ∀ x, (leaf x).asNumber ofInt = some x

/-- TRUSTED: what the writer prints for an offset `x` lexes to an integer `i` with `i as f64 = rd x`
(`0` for a zero offset) or to a string `deg(d)` whose inside parses to `d` with `d.to_radians() = rd x`;
`rd x` is the offset at the printed precision -/
def OffLeaf (ofInt : Int → R) (leaf : R → Yaml R) (rd : R → R) : Prop :=
  ∀ x, (∃ i, leaf x = .int i ∧ ofInt i = rd x) ∨
       (∃ t w d, leaf x = .str t w (some (some d)) ∧ toRadians d = rd x)

/-- the two shapes of a printed length satisfy the contract -/
theorem lenLeaf_of_shapes {ofInt : Int → R} {leaf : R → Yaml R}
    (h : ∀ x, (∃ t rp, leaf x = .real t (some x) rp) ∨ (∃ i, leaf x = .int i ∧ ofInt i = x)) :
    LenLeaf ofInt leaf := by
  intro x
  rcases h x with ⟨t, rp, hx⟩ | ⟨i, hx, hi⟩
  · rw [hx]; rfl
  · rw [hx]; simp [Yaml.asNumber, hi]

/-- one entry of the offsets array and the value the reader takes from it: an integer, a real
(Rust's `str::parse::<f64>` of its text gives `v`), a string `deg(d)`, a plain numeric string -/
inductive OffEntry (ofInt : Int → R) : Yaml R → R → Prop
  | int (i : Int) : OffEntry ofInt (.int i) (ofInt i)
  | real (t : String) (a : Option R) (v : R) : OffEntry ofInt (.real t a (some v)) v
  | deg (t : String) (w : Option R) (d : R) : OffEntry ofInt (.str t w (some (some d))) (toRadians d)
  | plain (t : String) (v : R) : OffEntry ofInt (.str t (some v) none) v

/-- the offsets part: absent (six `0 as f64`), six entries, or five entries padded with `0.0` -/
inductive OffsetsSpec (ofInt : Int → R) (doc : Yaml R) : List R → Prop
  | absent : NoKey doc "opw_kinematics_joint_offsets" →
      OffsetsSpec ofInt doc (List.replicate 6 (ofInt 0))
  | six {items : List (Yaml R)} {vals : List R} :
      HasKey doc "opw_kinematics_joint_offsets" (.arr items) → All2 (OffEntry ofInt) items vals →
      items.length = 6 → OffsetsSpec ofInt doc vals
  | five {items : List (Yaml R)} {vals : List R} :
      HasKey doc "opw_kinematics_joint_offsets" (.arr items) → All2 (OffEntry ofInt) items vals →
      items.length = 5 → OffsetsSpec ofInt doc (vals ++ [0])

/-- the sign-corrections part (before the dof rule): absent (six ones), six integers, or five
integers padded with `0`; values pass through the `as i8` cast -/
inductive SignsSpec (doc : Yaml R) : List Int → Prop
  | absent : NoKey doc "opw_kinematics_joint_sign_corrections" → SignsSpec doc [1, 1, 1, 1, 1, 1]
  | six {s : List Int} :
      HasKey doc "opw_kinematics_joint_sign_corrections" (.arr (s.map (fun i => .int i))) →
      s.length = 6 → SignsSpec doc (s.map toI8)
  | five {s : List Int} :
      HasKey doc "opw_kinematics_joint_sign_corrections" (.arr (s.map (fun i => .int i))) →
      s.length = 5 → SignsSpec doc (s.map toI8 ++ [0])

/-- the dof entry: top level (wins), else inside the geometric-parameters hash, else 6 -/
inductive DofSpec (doc geo : Yaml R) : Int → Prop
  | top {d : Int} : HasKey doc "dof" (.int d) → DofSpec doc geo d
  | nested {d : Int} : NoKey doc "dof" → HasKey geo "dof" (.int d) → DofSpec doc geo d
  | absent : NoKey doc "dof" → NoKey geo "dof" → DofSpec doc geo 6

/-- field `k` of the geometric-parameters hash is a number (integer or real) with value `x` -/
def GeoField (ofInt : Int → R) (geo : Yaml R) (k : String) (x : R) : Prop :=
  ∃ n, HasKey geo k n ∧ n.asNumber ofInt = some x

/-- `doc` is a file in the documented format (any key order, other keys allowed, first occurrence
of a key counts) and `v` is what it denotes -/
def Documented (ofInt : Int → R) (doc : Yaml R) (v : YParams R) : Prop :=
  ∃ geo s0 d,
    HasKey doc "opw_kinematics_geometric_parameters" geo ∧
    GeoField ofInt geo "a1" v.a1 ∧ GeoField ofInt geo "a2" v.a2 ∧ GeoField ofInt geo "b" v.b ∧
    GeoField ofInt geo "c1" v.c1 ∧ GeoField ofInt geo "c2" v.c2 ∧ GeoField ofInt geo "c3" v.c3 ∧
    GeoField ofInt geo "c4" v.c4 ∧
    OffsetsSpec ofInt doc v.offsets ∧ SignsSpec doc s0 ∧ DofSpec doc geo d ∧
    v.dof = toI8 d ∧ v.signs = (if toI8 d = 5 then s0.take 5 ++ [0] else s0)

/-- integer and real spellings of a length are both numbers -/
theorem geoField_int {ofInt : Int → R} {geo : Yaml R} {k : String} {i : Int}
    (h : HasKey geo k (.int i)) : GeoField ofInt geo k (ofInt i) := ⟨_, h, rfl⟩

theorem geoField_real {ofInt : Int → R} {geo : Yaml R} {k : String} {t : String} {x : R}
    {rp : Option R} (h : HasKey geo k (.real t (some x) rp)) : GeoField ofInt geo k x :=
  ⟨_, h, rfl⟩

theorem geometry_of_documented {ofInt : Int → R} {doc geo : Yaml R} {k : String} {x : R}
    (hg : HasKey doc "opw_kinematics_geometric_parameters" geo) (h : GeoField ofInt geo k x) :
    geoNum ofInt doc k = some x := by
  obtain ⟨n, hn, hx⟩ := h
  unfold geoNum geoOf
  rw [get_of_hasKey hg, get_of_hasKey hn, hx]

theorem offEntry_of_documented {ofInt : Int → R} {it : Yaml R} {x : R} (h : OffEntry ofInt it x) :
    offEntry ofInt it = .ok x := by
  cases h <;> rfl

theorem offsets_five_or_six {ofInt : Int → R} {doc : Yaml R} {offs : List R}
    (h : OffsetsSpec ofInt doc offs) : offsOf ofInt doc = .ok offs := by
  unfold offsOf
  cases h with
  | absent hn => rw [get_of_noKey hn]; exact readOffsets_default rfl
  | six hk ha hl =>
    rw [get_of_hasKey hk, readOffsets_arr, readOffsets_go_ok (ha.imp fun _ _ => offEntry_of_documented)]
    exact checkSix_six 0 (ha.length_eq ▸ hl)
  | five hk ha hl =>
    rw [get_of_hasKey hk, readOffsets_arr, readOffsets_go_ok (ha.imp fun _ _ => offEntry_of_documented)]
    exact checkSix_five 0 (ha.length_eq ▸ hl)

theorem signs_five_or_six {doc : Yaml R} {s0 : List Int} (h : SignsSpec doc s0) :
    signsOf doc = .ok s0 := by
  unfold signsOf
  cases h with
  | absent hn => rw [get_of_noKey hn]; exact readSigns_default rfl
  | six hk hl =>
    rw [get_of_hasKey hk, readSigns_arr, signVals_ints, checkSix_six 0 (by simpa using hl)]
  | five hk hl =>
    rw [get_of_hasKey hk, readSigns_arr, signVals_ints, checkSix_five 0 (by simpa using hl)]

theorem dof_lookup {doc geo : Yaml R} {d : Int}
    (hg : HasKey doc "opw_kinematics_geometric_parameters" geo) (h : DofSpec doc geo d) :
    dofOf doc = toI8 d := by
  unfold dofOf geoOf
  rw [get_of_hasKey hg]
  cases h with
  | top hk => rw [get_of_hasKey hk]; rfl
  | nested hn hk => rw [get_of_noKey hn, get_of_hasKey hk]; rfl
  | absent hn hn' => rw [get_of_noKey hn, get_of_noKey hn']; rfl

/-- the top-level `dof` wins even when a different nested one is present -/
theorem dof_top_wins {doc : Yaml R} {d : Int} (h : HasKey doc "dof" (.int d)) :
    dofOf doc = toI8 d := by
  unfold dofOf
  rw [get_of_hasKey h]; rfl

/-- every file in the documented format parses to what it denotes, whatever follows it in the
document stream -/
theorem variants_parse {ofInt : Int → R} {doc : Yaml R} {v : YParams R} (rest : List (Yaml R))
    (h : Documented ofInt doc v) : fromYamlDocs ofInt true (doc :: rest) = .ok v := by
  obtain ⟨geo, s0, d, hg, h1, h2, h3, h4, h5, h6, h7, ho, hs, hd, hvd, hvs⟩ := h
  rw [fromYamlDocs_ok rest (signs_five_or_six hs)
    (geometry_of_documented hg h1) (geometry_of_documented hg h2) (geometry_of_documented hg h3)
    (geometry_of_documented hg h4) (geometry_of_documented hg h5) (geometry_of_documented hg h6)
    (geometry_of_documented hg h7) (offsets_five_or_six ho), dof_lookup hg hd, ← hvs, ← hvd]

/-- a hash with pairwise different keys: membership is enough for `HasKey` -/
theorem hasKey_of_unique {l : List (Yaml R × Yaml R)} {key v : Yaml R} {k : String}
    (hm : (key, v) ∈ l) (hk : key.isStr k = true)
    (hu : ∀ e ∈ l, e.1.isStr k = true → e.2 = v) : HasKey (Yaml.hash l) k v :=
  hasKey_of_mem_unique hm hk hu

/-- what `to_yaml` writes is a file in the documented format, for any six signs and any `dof`; signs
and dof are denoted as the reader's `as i8` casts leave them -/
theorem toYamlTree_documented {ofInt : Int → R} {leafLen leafOff : R → Yaml R} {rd : R → R}
    (hL : LenLeaf ofInt leafLen) (hO : OffLeaf ofInt leafOff rd)
    (p : Params R) (signs : List Int) (hlen : signs.length = 6) :
    Documented ofInt (toYamlTree leafLen leafOff p signs)
      ⟨p.a1, p.a2, p.b, p.c1, p.c2, p.c3, p.c4, p.offsets.toList.map rd,
        if toI8 p.dof = 5 then (signs.map toI8).take 5 ++ [0] else signs.map toI8, toI8 p.dof⟩ := by
  -- `top rfl i rfl`, `geo rfl i rfl`: entry `i` of the top-level / the geometry hash sits under its
  -- key, because the keys of each are plain strings and pairwise different
  have top := @hasKey_of_nodup R _ _ topKeys_nodup
  have geo := @hasKey_of_nodup R _ _ fieldNames_nodup
  have off : ∀ x, OffEntry ofInt (leafOff x) (rd x) := fun x => by
    rcases hO x with ⟨i, hx, hi⟩ | ⟨t, w, d, hx, hd⟩
    · rw [hx, ← hi]; exact .int i
    · rw [hx, ← hd]; exact .deg t w d
  exact ⟨_, _, p.dof, top rfl 0 rfl, ⟨_, geo rfl 0 rfl, hL _⟩, ⟨_, geo rfl 1 rfl, hL _⟩,
    ⟨_, geo rfl 2 rfl, hL _⟩, ⟨_, geo rfl 3 rfl, hL _⟩, ⟨_, geo rfl 4 rfl, hL _⟩,
    ⟨_, geo rfl 5 rfl, hL _⟩, ⟨_, geo rfl 6 rfl, hL _⟩,
    .six (top rfl 1 rfl) (All2.map off _) rfl, .six (top rfl 2 rfl) hlen, .top (top rfl 3 rfl),
    rfl, rfl⟩

/-- MAIN: what `to_yaml` writes, `from_yaml_file` reads back: geometry, sign corrections and dof
exactly, offsets at the printed precision; for a 5-DOF robot joint 6's sign reads back as 0.
Needs the two leaf contracts and signs and `dof` in the `i8` range. -/
theorem yaml_roundtrip {ofInt : Int → R} {leafLen leafOff : R → Yaml R} {rd : R → R}
    (hL : LenLeaf ofInt leafLen) (hO : OffLeaf ofInt leafOff rd)
    (p : Params R) (signs : List Int) (hlen : signs.length = 6)
    (hs : ∀ s ∈ signs, -128 ≤ s ∧ s ≤ 127) (hd1 : -128 ≤ p.dof) (hd2 : p.dof ≤ 127) :
    fromYamlDocs ofInt true [toYamlTree leafLen leafOff p signs] =
      .ok ⟨p.a1, p.a2, p.b, p.c1, p.c2, p.c3, p.c4, p.offsets.toList.map rd,
        if p.dof = 5 then signs.take 5 ++ [0] else signs, p.dof⟩ := by
  rw [variants_parse [] (toYamlTree_documented hL hO p signs hlen), map_toI8_id hs, toI8_id hd1 hd2]

theorem yaml_roundtrip_unit_signs {ofInt : Int → R} {leafLen leafOff : R → Yaml R} {rd : R → R}
    (hL : LenLeaf ofInt leafLen) (hO : OffLeaf ofInt leafOff rd)
    (p : Params R) (signs : List Int) (hlen : signs.length = 6)
    (hs : ∀ s ∈ signs, s = -1 ∨ s = 0 ∨ s = 1) (hd : p.dof = 5 ∨ p.dof = 6) :
    fromYamlDocs ofInt true [toYamlTree leafLen leafOff p signs] =
      .ok ⟨p.a1, p.a2, p.b, p.c1, p.c2, p.c3, p.c4, p.offsets.toList.map rd,
        if p.dof = 5 then signs.take 5 ++ [0] else signs, p.dof⟩ :=
  yaml_roundtrip hL hO p signs hlen (fun s h => by have := hs s h; omega) (by omega) (by omega)

/-- 6-DOF: the sign list comes back unchanged -/
theorem yaml_roundtrip_6dof {ofInt : Int → R} {leafLen leafOff : R → Yaml R} {rd : R → R}
    (hL : LenLeaf ofInt leafLen) (hO : OffLeaf ofInt leafOff rd)
    (p : Params R) (signs : List Int) (hlen : signs.length = 6)
    (hs : ∀ s ∈ signs, s = -1 ∨ s = 0 ∨ s = 1) (hd : p.dof = 6) :
    fromYamlDocs ofInt true [toYamlTree leafLen leafOff p signs] =
      .ok ⟨p.a1, p.a2, p.b, p.c1, p.c2, p.c3, p.c4, p.offsets.toList.map rd, signs, 6⟩ := by
  rw [yaml_roundtrip_unit_signs hL hO p signs hlen hs (.inr hd), hd]; rfl

/-- 5-DOF: the reader honours the top-level `dof` that `to_yaml` writes; joint 6's sign reads back 0 -/
theorem yaml_roundtrip_5dof {ofInt : Int → R} {leafLen leafOff : R → Yaml R} {rd : R → R}
    (hL : LenLeaf ofInt leafLen) (hO : OffLeaf ofInt leafOff rd)
    (p : Params R) (signs : List Int) (hlen : signs.length = 6)
    (hs : ∀ s ∈ signs, s = -1 ∨ s = 0 ∨ s = 1) (hd : p.dof = 5) :
    fromYamlDocs ofInt true [toYamlTree leafLen leafOff p signs] =
      .ok ⟨p.a1, p.a2, p.b, p.c1, p.c2, p.c3, p.c4, p.offsets.toList.map rd,
        signs.take 5 ++ [0], 5⟩ := by
  rw [yaml_roundtrip_unit_signs hL hO p signs hlen hs (.inl hd), hd]; rfl

/-! Malformed input.  `fromYamlDocs` is a total function, so "never a panic" is which result each
input has.  Precedence: lexer failure / empty stream; sign-array length; the seven fields in the
order a1, a2, b, c1, c2, c3, c4; the offsets array. -/

/-- text the lexer rejects -/
theorem error_not_loaded (ofInt : Int → R) (docs : List (Yaml R)) :
    fromYamlDocs ofInt false docs = .error .parse := by
  simp [fromYamlDocs]

/-- empty or comments-only file (no document) -/
theorem error_no_document (ofInt : Int → R) :
    fromYamlDocs ofInt true [] = .error .parse := by
  simp [fromYamlDocs]

/-- a sign array whose length is not 5 or 6: first in precedence, whatever else is wrong -/
theorem error_signs_length {ofInt : Int → R} {doc : Yaml R} (rest : List (Yaml R))
    {l : List (Yaml R)} (ha : doc.get "opw_kinematics_joint_sign_corrections" = .arr l)
    (h5 : l.length ≠ 5) (h6 : l.length ≠ 6) :
    fromYamlDocs ofInt true (doc :: rest) = .error (.invalidLength l.length) := by
  rw [← signVals_length l] at h5 h6 ⊢
  rw [fromYamlDocs_cons, signsOf, ha, readSigns_arr, checkSix_bad 0 h5 h6]

/-- the sign reader has no other failure (non-integer entries count as 0) -/
theorem signs_ok_or_length (y : Yaml R) :
    (∃ s, readSigns y = .ok s ∧ s.length = 6) ∨
    (∃ l, y = .arr l ∧ l.length ≠ 5 ∧ l.length ≠ 6 ∧ readSigns y = .error (.invalidLength l.length)) := by
  cases y with
  | arr l =>
    rw [readSigns_arr]
    refine (checkSix_total 0 (signVals l)).imp_right fun h => ⟨l, rfl, ?_⟩
    rw [signVals_length] at h
    exact ⟨h.2.1, h.2.2, h.1⟩
  | _ => exact .inl ⟨_, readSigns_default rfl, rfl⟩

/-- the first field, in the reader's order, that has no usable number is the one reported -/
theorem error_missing_field {ofInt : Int → R} {doc : Yaml R} (rest : List (Yaml R))
    {s0 : List Int} {k : String} (hs : signsOf doc = .ok s0)
    (hk : firstMissing (geoNum ofInt doc) = some k) :
    fromYamlDocs ofInt true (doc :: rest) = .error (.missing k) := by
  rw [fromYamlDocs_cons, hs, hk]

/-- no usable `a1`: absent, not an integer/real, or no geometric-parameters hash at all -/
theorem error_missing_a1 {ofInt : Int → R} {doc : Yaml R} (rest : List (Yaml R)) {s0 : List Int}
    (hs : signsOf doc = .ok s0) (h : geoNum ofInt doc "a1" = none) :
    fromYamlDocs ofInt true (doc :: rest) = .error (.missing "a1") := by
  refine error_missing_field rest hs ?_
  rw [firstMissing, fieldNames, List.find?_cons, h]
  rfl

theorem error_no_geometry {ofInt : Int → R} {doc : Yaml R} (rest : List (Yaml R)) {s0 : List Int}
    (hs : signsOf doc = .ok s0) (h : NoKey doc "opw_kinematics_geometric_parameters") :
    fromYamlDocs ofInt true (doc :: rest) = .error (.missing "a1") := by
  refine error_missing_a1 rest hs ?_
  rw [geoNum, geoOf, get_of_noKey h]
  rfl

/-- instance: `a1`, `a2` fine, `b` unusable -/
theorem error_missing_b {ofInt : Int → R} {doc : Yaml R} (rest : List (Yaml R)) {s0 : List Int}
    {a1 a2 : R} (hs : signsOf doc = .ok s0) (h1 : geoNum ofInt doc "a1" = some a1)
    (h2 : geoNum ofInt doc "a2" = some a2) (h3 : geoNum ofInt doc "b" = none) :
    fromYamlDocs ofInt true (doc :: rest) = .error (.missing "b") := by
  refine error_missing_field rest hs ?_
  simp only [firstMissing, fieldNames, List.find?_cons, h1, h2, h3]
  rfl

/-- errors of the offsets array surface once signs and the seven fields are fine -/
theorem error_offsets {ofInt : Int → R} {doc : Yaml R} (rest : List (Yaml R)) {s0 : List Int}
    {e : YamlErr} (hs : signsOf doc = .ok s0) (hk : firstMissing (geoNum ofInt doc) = none)
    (ho : offsOf ofInt doc = .error e) :
    fromYamlDocs ofInt true (doc :: rest) = .error e := by
  rw [fromYamlDocs_cons, hs, hk, ho]

theorem readOffsets_length {ofInt : Int → R} {items : List (Yaml R)} {vals : List R}
    (hv : All2 (fun it x => offEntry ofInt it = .ok x) items vals)
    (h5 : items.length ≠ 5) (h6 : items.length ≠ 6) :
    readOffsets ofInt (.arr items) = .error (.invalidLength items.length) := by
  rw [hv.length_eq] at h5 h6 ⊢
  rw [readOffsets_arr, readOffsets_go_ok hv]
  exact checkSix_bad 0 h5 h6

/-- offsets array of readable entries but wrong length -/
theorem error_offsets_length {ofInt : Int → R} {doc : Yaml R} (rest : List (Yaml R))
    {s0 : List Int} {items : List (Yaml R)} {vals : List R}
    (hs : signsOf doc = .ok s0) (hk : firstMissing (geoNum ofInt doc) = none)
    (ha : doc.get "opw_kinematics_joint_offsets" = .arr items)
    (hv : All2 (fun it x => offEntry ofInt it = .ok x) items vals)
    (h5 : items.length ≠ 5) (h6 : items.length ≠ 6) :
    fromYamlDocs ofInt true (doc :: rest) = .error (.invalidLength items.length) :=
  error_offsets rest hs hk (by rw [offsOf, ha]; exact readOffsets_length hv h5 h6)

/-- `deg(` … `)` whose inside does not parse, anywhere in the array, whatever its length -/
theorem readOffsets_bad_deg {ofInt : Int → R} {items : List (Yaml R)} {t : String} {w : Option R}
    (hm : (.str t w (some none) : Yaml R) ∈ items) :
    readOffsets ofInt (.arr items) = .error .parse := by
  rw [readOffsets_arr, readOffsets_go_bad (e := .parse) hm rfl]

/-- a non-numeric plain string, or a real whose text Rust's parser rejects -/
theorem readOffsets_bad_scalar {ofInt : Int → R} {items : List (Yaml R)} {t : String}
    (hm : (.str t none none : Yaml R) ∈ items ∨ ∃ a, (.real t a none : Yaml R) ∈ items) :
    readOffsets ofInt (.arr items) = .error .parse := by
  rcases hm with hm | ⟨a, hm⟩ <;> rw [readOffsets_arr, readOffsets_go_bad (e := .parse) hm rfl]

/-- the same at file level -/
theorem error_bad_deg {ofInt : Int → R} {doc : Yaml R} (rest : List (Yaml R)) {s0 : List Int}
    {items : List (Yaml R)} {t : String} {w : Option R}
    (hs : signsOf doc = .ok s0) (hk : firstMissing (geoNum ofInt doc) = none)
    (ha : doc.get "opw_kinematics_joint_offsets" = .arr items)
    (hm : (.str t w (some none) : Yaml R) ∈ items) :
    fromYamlDocs ofInt true (doc :: rest) = .error .parse :=
  error_offsets rest hs hk (by rw [offsOf, ha]; exact readOffsets_bad_deg hm)

/-- a document that is not a hash (scalar, list, null) -/
theorem error_not_a_hash {ofInt : Int → R} {doc : Yaml R} (rest : List (Yaml R))
    (h : ∀ l, doc ≠ .hash l) :
    fromYamlDocs ofInt true (doc :: rest) = .error (.missing "a1") := by
  have hn : ∀ k, NoKey doc k := fun k l hl => absurd hl (h l)
  refine error_no_geometry rest (s0 := [1, 1, 1, 1, 1, 1]) ?_ (hn _)
  rw [signsOf, get_of_noKey (hn _)]; exact readSigns_default rfl

/-- every result is a success (six offsets, six signs, dof an `i8`) or one of the three error kinds;
no other value, hence no panic -/
theorem never_panics (ofInt : Int → R) (loaded : Bool) (docs : List (Yaml R)) :
    (∃ v, fromYamlDocs ofInt loaded docs = .ok v ∧ v.offsets.length = 6 ∧ v.signs.length = 6 ∧
        -128 ≤ v.dof ∧ v.dof ≤ 127) ∨
    fromYamlDocs ofInt loaded docs = .error .parse ∨
    (∃ k, k ∈ fieldNames ∧ fromYamlDocs ofInt loaded docs = .error (.missing k)) ∨
    (∃ n, n ≠ 5 ∧ n ≠ 6 ∧ fromYamlDocs ofInt loaded docs = .error (.invalidLength n)) := by
  cases loaded with
  | false => exact .inr (.inl (error_not_loaded ofInt docs))
  | true =>
  cases docs with
  | nil => exact .inr (.inl (error_no_document ofInt))
  | cons doc rest =>
  -- the three checks in the reader's order, each with the reader's own classification; a failed check
  -- is one of the error theorems above
  rcases signs_ok_or_length (doc.get "opw_kinematics_joint_sign_corrections") with
    ⟨s0, hs, hl⟩ | ⟨l, ha, h5, h6, -⟩
  · cases hk : firstMissing (geoNum ofInt doc) with
    | some k =>
      exact .inr (.inr (.inl ⟨k, List.mem_of_find?_eq_some hk, error_missing_field rest hs hk⟩))
    | none =>
      rcases readOffsets_total ofInt (doc.get "opw_kinematics_joint_offsets") with
        ⟨offs, ho, hol⟩ | ho | ⟨n, ho, h5, h6⟩
      · have hv := fromYamlDocs_cons ofInt doc rest
        rw [signsOf, hs, hk, offsOf, ho] at hv
        refine .inl ⟨_, hv, hol, ?_, (toI8_range _).1, (toI8_range _).2⟩
        show (if dofOf doc = 5 then s0.take 5 ++ [0] else s0).length = 6
        split
        · simp [hl]
        · exact hl
      · exact .inr (.inl (error_offsets rest hs hk ho))
      · exact .inr (.inr (.inr ⟨n, h5, h6, error_offsets rest hs hk ho⟩))
  · exact .inr (.inr (.inr ⟨_, h5, h6, error_signs_length rest ha h5 h6⟩))

example : toI8 300 = 44 := by decide
example : toI8 (-1) = -1 := by decide
example : toI8 127 = 127 := by decide
example : toI8 128 = -128 := by decide
example : toI8 5 = 5 := by decide

/-- key node as the lexer produces it for a plain key -/
abbrev key (s : String) : Yaml R := .str s none none

/-- the documented example, leaf values abstract:
```
opw_kinematics_geometric_parameters: {a1: 0.05, a2: -0.14, b: 0.0, c1: 0.485, c2: 0.82, c3: 0.78, c4: 0.09}
opw_kinematics_joint_offsets: [0.0, 0.0, deg(-90.0), 0.0, 0.0, deg(180.0)]
opw_kinematics_joint_sign_corrections: [1, 1, -1, -1, -1, -1]
dof: 6
``` -/
def exampleDoc (a1 a2 b c1 c2 c3 c4 z m90 p180 : R) : Yaml R :=
  .hash [
    (key "opw_kinematics_geometric_parameters", .hash [
      (key "a1", .real "0.05" (some a1) (some a1)), (key "a2", .real "-0.14" (some a2) (some a2)),
      (key "b", .real "0.0" (some b) (some b)), (key "c1", .real "0.485" (some c1) (some c1)),
      (key "c2", .real "0.82" (some c2) (some c2)), (key "c3", .real "0.78" (some c3) (some c3)),
      (key "c4", .real "0.09" (some c4) (some c4))]),
    (key "opw_kinematics_joint_offsets", .arr [
      .real "0.0" (some z) (some z), .real "0.0" (some z) (some z),
      .str "deg(-90.0)" none (some (some m90)),
      .real "0.0" (some z) (some z), .real "0.0" (some z) (some z),
      .str "deg(180.0)" none (some (some p180))]),
    (key "opw_kinematics_joint_sign_corrections",
      .arr [.int 1, .int 1, .int (-1), .int (-1), .int (-1), .int (-1)]),
    (key "dof", .int 6)]

/-- keys by position in a hash with distinct keys, leaves by their shapes -/
theorem exampleDoc_documented (ofInt : Int → R) (a1 a2 b c1 c2 c3 c4 z m90 p180 : R) :
    Documented ofInt (exampleDoc a1 a2 b c1 c2 c3 c4 z m90 p180)
      ⟨a1, a2, b, c1, c2, c3, c4, [z, z, toRadians m90, z, z, toRadians p180],
        [1, 1, -1, -1, -1, -1], 6⟩ := by
  have top := @hasKey_of_nodup R _ _ topKeys_nodup
  have geo := @hasKey_of_nodup R _ _ fieldNames_nodup
  exact ⟨_, [1, 1, -1, -1, -1, -1].map toI8, 6, top rfl 0 rfl, ⟨_, geo rfl 0 rfl, rfl⟩,
    ⟨_, geo rfl 1 rfl, rfl⟩, ⟨_, geo rfl 2 rfl, rfl⟩, ⟨_, geo rfl 3 rfl, rfl⟩, ⟨_, geo rfl 4 rfl, rfl⟩,
    ⟨_, geo rfl 5 rfl, rfl⟩, ⟨_, geo rfl 6 rfl, rfl⟩,
    .six (top rfl 1 rfl) (.cons (.real _ _ _) (.cons (.real _ _ _) (.cons (.deg _ _ _)
      (.cons (.real _ _ _) (.cons (.real _ _ _) (.cons (.deg _ _ _) .nil)))))) rfl,
    .six (s := [1, 1, -1, -1, -1, -1]) (top rfl 2 rfl) rfl, .top (top rfl 3 rfl), rfl, rfl⟩

example (ofInt : Int → R) (a1 a2 b c1 c2 c3 c4 z m90 p180 : R) :
    fromYamlDocs ofInt true [exampleDoc a1 a2 b c1 c2 c3 c4 z m90 p180] =
      .ok ⟨a1, a2, b, c1, c2, c3, c4, [z, z, toRadians m90, z, z, toRadians p180],
        [1, 1, -1, -1, -1, -1], 6⟩ :=
  variants_parse [] (exampleDoc_documented ofInt a1 a2 b c1 c2 c3 c4 z m90 p180)

/-- the documented example is `Documented` (the predicate is inhabited), so `variants_parse` applies -/
example (ofInt : Int → R) (a1 a2 b c1 c2 c3 c4 z m90 p180 : R) :
    Documented ofInt (exampleDoc a1 a2 b c1 c2 c3 c4 z m90 p180)
      ⟨a1, a2, b, c1, c2, c3, c4, [z, z, toRadians m90, z, z, toRadians p180],
        [1, 1, -1, -1, -1, -1], 6⟩ :=
  exampleDoc_documented ofInt a1 a2 b c1 c2 c3 c4 z m90 p180

/-- hence it parses, also when further documents follow in the stream -/
example (ofInt : Int → R) (a1 a2 b c1 c2 c3 c4 z m90 p180 : R) (rest : List (Yaml R))
    (h : Documented ofInt (exampleDoc a1 a2 b c1 c2 c3 c4 z m90 p180)
      ⟨a1, a2, b, c1, c2, c3, c4, [z, z, toRadians m90, z, z, toRadians p180],
        [1, 1, -1, -1, -1, -1], 6⟩) :
    fromYamlDocs ofInt true (exampleDoc a1 a2 b c1 c2 c3 c4 z m90 p180 :: rest) =
      .ok ⟨a1, a2, b, c1, c2, c3, c4, [z, z, toRadians m90, z, z, toRadians p180],
        [1, 1, -1, -1, -1, -1], 6⟩ := variants_parse rest h

/-- a 5-DOF file written the other way: integer lengths, five-entry arrays, `dof: 5` on top and a
stale `dof: 6` nested (the top one wins), keys in another order -/
def exampleDoc5 (z : R) : Yaml R :=
  .hash [
    (key "dof", .int 5),
    (key "opw_kinematics_joint_sign_corrections", .arr [.int 1, .int (-1), .int 1, .int 1, .int 1]),
    (key "opw_kinematics_joint_offsets", .arr [
      .int 0, .str "1.5" (some z) none, .int 0, .int 0, .int 0]),
    (key "opw_kinematics_geometric_parameters", .hash [
      (key "dof", .int 6), (key "c4", .int 90), (key "c3", .int 780), (key "c2", .int 820),
      (key "c1", .int 485), (key "b", .int 0), (key "a2", .int (-140)), (key "a1", .int 50)])]

example (ofInt : Int → R) (z : R) :
    fromYamlDocs ofInt true [exampleDoc5 z] =
      .ok ⟨ofInt 50, ofInt (-140), ofInt 0, ofInt 485, ofInt 820, ofInt 780, ofInt 90,
        [ofInt 0, z, ofInt 0, ofInt 0, ofInt 0, 0], [1, -1, 1, 1, 1, 0], 5⟩ := by
  -- it is `Documented` too: the same keys in reverse order, a nested `dof` in front of the fields
  have top := @hasKey_of_nodup R _ _ (List.pairwise_reverse.2 (topKeys_nodup.imp Ne.symm))
  have geo := @hasKey_of_nodup R _ ("dof" :: fieldNames.reverse) (by decide +kernel)
  exact variants_parse [] ⟨_, [1, -1, 1, 1, 1].map toI8 ++ [0], 5, top rfl 3 rfl,
    ⟨_, geo rfl 7 rfl, rfl⟩, ⟨_, geo rfl 6 rfl, rfl⟩, ⟨_, geo rfl 5 rfl, rfl⟩, ⟨_, geo rfl 4 rfl, rfl⟩,
    ⟨_, geo rfl 3 rfl, rfl⟩, ⟨_, geo rfl 2 rfl, rfl⟩, ⟨_, geo rfl 1 rfl, rfl⟩,
    .five (top rfl 2 rfl) (.cons (.int _) (.cons (.plain _ _) (.cons (.int _) (.cons (.int _)
      (.cons (.int _) .nil))))) rfl,
    .five (s := [1, -1, 1, 1, 1]) (top rfl 1 rfl) rfl, .top (top rfl 0 rfl), rfl, rfl⟩

/-- a four-entry sign array is an error value -/
example (ofInt : Int → R) (g : Yaml R) :
    fromYamlDocs ofInt true
      [.hash [(key "opw_kinematics_geometric_parameters", g),
        (key "opw_kinematics_joint_sign_corrections", .arr [.int 1, .int 1, .int 1, .int 1])]] =
      .error (.invalidLength 4) := by
  refine error_signs_length (l := [.int 1, .int 1, .int 1, .int 1]) [] ?_ (by simp) (by simp)
  exact get_of_hasKey (hasKey_of_nodup (topKeys_nodup.sublist
    (.cons_cons _ (.cons _ (.cons_cons _ (.cons _ .slnil))))) rfl 1 rfl)

/-- scalar, list and null documents are error values -/
example (ofInt : Int → R) (i : Int) :
    fromYamlDocs ofInt true [.int i] = .error (.missing "a1") :=
  error_not_a_hash [] (fun l h => by cases h)

example (ofInt : Int → R) (l : List (Yaml R)) :
    fromYamlDocs ofInt true [.arr l] = .error (.missing "a1") :=
  error_not_a_hash [] (fun l h => by cases h)

example (ofInt : Int → R) :
    fromYamlDocs ofInt true [.other] = .error (.missing "a1") :=
  error_not_a_hash [] (fun l h => by cases h)

end Opw.C19
