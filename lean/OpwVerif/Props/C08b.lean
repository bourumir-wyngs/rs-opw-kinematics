/-
  C08b — `inverse_continuing` (6-DOF path) with joint limits: "every solution of the same query
  without limits that satisfies them is still returned".

  The `'shifts` loop with constraints collects every compliant vector the loop without constraints
  collects (`shiftLoop_superset`, [G]); the full statement over ℝ is `continuing_superset`, for any
  number type under two hypotheses on the arithmetic `continuing_superset_generic`.

  The converse inclusion is FALSE in general and is not claimed: when the run without constraints
  recovers a singular candidate that violates the limits it breaks out of the `'shifts` loop, while
  the run with constraints goes on to the next shift and may recover a further (compliant)
  candidate there.  So the constrained answer can be strictly larger than the filtered unconstrained
  one; it always consists of compliant vectors only (`C08.inverseContinuing_all_compliant`).

  Kinds: [R] real arithmetic, [G] generic (any number type, no assumption on the arithmetic).
-/
import OpwVerif.Props.C04
import OpwVerif.Props.C08
namespace Opw.C08b

/-- [R] The compliant solutions of plain `inverse` survive (any sorting weight, any `prev`), each as
its representative next to `prev`.  "Partial" against the property's wording: the statement for EVERY
element of the unconstrained `inverse_continuing` answer, recovered singular candidates included, is
`continuing_superset` below. -/
theorem continuing_superset_partial (p : Params ℝ) (c : Constraints ℝ) (pose : Iso ℝ) (prev : J6 ℝ)
    (hdof : p.dof ≠ 5) (s : J6 ℝ) (hs : s ∈ inverseIntern p pose) (hc : c.compliant s = true) :
    s.normalizeNear prev ∈ (⟨p, some c⟩ : Opw ℝ).inverseContinuing pose prev := by
  apply (C04.inverseContinuing_superset ⟨p, some c⟩ pose prev hdof s hs).2
  rw [Nearest.compliant_normalizeNear]
  exact hc

/-- [R] the same in the vocabulary of C08 (partial in the same sense) -/
theorem continuing_superset_partial' (p : Params ℝ) (c : Constraints ℝ) (pose : Iso ℝ) (prev : J6 ℝ)
    (hdof : p.dof ≠ 5) (s : J6 ℝ) (hs : s ∈ (⟨p, none⟩ : Opw ℝ).inverse pose)
    (hc : c.compliant s = true) :
    s.normalizeNear prev ∈ (⟨p, some c⟩ : Opw ℝ).inverseContinuing pose prev := by
  rw [Opw.inverse_of_dof6 (k := ⟨p, none⟩) hdof] at hs
  exact continuing_superset_partial p c pose prev hdof s hs hc

/-- [G] with constraints `c` the recovered candidate has one more test to pass -/
theorem recovered_some {R : Type} [OpwNum R] (p : Params R) (c : Constraints R) (pose : Iso R)
    (prev : J6 R) (d : V3 R) :
    recovered ⟨p, some c⟩ pose prev d = (recovered ⟨p, none⟩ pose prev d).filter c.compliant := by
  simp only [recovered, Opw.compliant, Bool.and_true, Option.filter_filter]

/-- [G] One iteration from the same accumulator: the two runs do the same, or the run without
constraints pushes a recovered candidate that violates `c` and breaks while the other goes on. -/
theorem shiftStep_none_vs_some {R : Type} [OpwNum R] (p : Params R) (c : Constraints R) (pose : Iso R)
    (prev : J6 R) (sols : List (J6 R)) (d : V3 R) :
    shiftStep ⟨p, none⟩ pose prev sols d = shiftStep ⟨p, some c⟩ pose prev sols d ∨
    ∃ now, c.compliant now = false ∧
      shiftStep ⟨p, none⟩ pose prev sols d =
        ((shiftStep ⟨p, some c⟩ pose prev sols d).1 ++ [now], true) ∧
      (shiftStep ⟨p, some c⟩ pose prev sols d).2 = false := by
  rw [shiftStep_eq, shiftStep_eq, recovered_some]
  cases recovered ⟨p, none⟩ pose prev d with
  | none => exact Or.inl rfl
  | some now =>
    cases hc : c.compliant now with
    | true => left; simp [Option.filter, hc]
    | false => right; exact ⟨now, hc, by simp [Option.filter, hc]⟩

/-- [G] Started from the same accumulator, every compliant vector the loop WITHOUT constraints ends
with is in what the loop WITH constraints ends with: raw solutions of the first productive shift and
a recovered singular candidate alike. -/
theorem shiftLoop_superset {R : Type} [OpwNum R] (p : Params R) (c : Constraints R) (pose : Iso R)
    (prev : J6 R) (ds : List (V3 R)) (sols : List (J6 R)) (s : J6 R)
    (h : s ∈ shiftLoop ⟨p, none⟩ pose prev ds sols) (hc : c.compliant s = true) :
    s ∈ shiftLoop ⟨p, some c⟩ pose prev ds sols := by
  -- as long as neither run has broken out the two accumulators are identical
  induction ds generalizing sols with
  | nil => exact h
  | cons d ds ih =>
    rw [shiftLoop_cons] at h ⊢
    rcases shiftStep_none_vs_some p c pose prev sols d with e | ⟨now, hnc, eU, eC⟩
    · rw [e] at h
      by_cases hb : (shiftStep ⟨p, some c⟩ pose prev sols d).2 = true
      · rw [if_pos hb] at h ⊢; exact h
      · rw [if_neg hb] at h ⊢; exact ih _ h
    · rw [eU] at h
      simp only [if_true] at h
      rw [eC]
      simp only [Bool.false_eq_true, if_false]
      rcases List.mem_append.mp h with h | h
      · exact Nearest.shiftLoop_mono _ _ _ _ _ h
      · rw [List.mem_singleton] at h
        rw [h, hnc] at hc
        cases hc

/-- [G] Any number type, under the two facts used about the arithmetic: `prev` is not the
`CONSTRAINT_CENTERED` sentinel, and the limits check is invariant under `normalize_near(·, prev)`
(`hper`; over ℝ `Nearest.compliant_normalizeNear`). -/
theorem continuing_superset_generic {R : Type} [OpwNum R] (p : Params R) (c : Constraints R)
    (pose : Iso R) (prev : J6 R) (hdof : p.dof ≠ 5) (hprev : isNaN prev.j1 = false)
    (hper : ∀ a : J6 R, c.compliant (a.normalizeNear prev) = c.compliant a) (s : J6 R)
    (hs : s ∈ (⟨p, none⟩ : Opw R).inverseContinuing pose prev) (hc : c.compliant s = true) :
    s ∈ (⟨p, some c⟩ : Opw R).inverseContinuing pose prev := by
  rw [Opw.inverseContinuing_of_dof6 (k := ⟨p, none⟩) hdof, mem_inverseContinuing6,
    Opw.reference_of_not_nan _ hprev] at hs
  rw [Opw.inverseContinuing_of_dof6 (k := ⟨p, some c⟩) hdof, mem_inverseContinuing6,
    Opw.reference_of_not_nan _ hprev]
  obtain ⟨⟨s0, h0, rfl⟩, -⟩ := hs
  exact ⟨⟨s0, shiftLoop_superset p c pose prev shifts [] s0 h0 (by rw [← hper]; exact hc), rfl⟩, hc⟩

/-- [R] FULL statement over ℝ, any sorting weight: every element of the answer WITHOUT constraints
that satisfies `c`, a regular solution or a recovered singular candidate, is returned WITH
constraints `c`. -/
theorem continuing_superset (p : Params ℝ) (c : Constraints ℝ) (pose : Iso ℝ) (prev : J6 ℝ)
    (hdof : p.dof ≠ 5) (s : J6 ℝ) (hs : s ∈ (⟨p, none⟩ : Opw ℝ).inverseContinuing pose prev)
    (hc : c.compliant s = true) : s ∈ (⟨p, some c⟩ : Opw ℝ).inverseContinuing pose prev :=
  continuing_superset_generic p c pose prev hdof rfl
    (fun a => Nearest.compliant_normalizeNear ⟨p, some c⟩ a prev) s hs hc

/-- [R] list form -/
theorem continuing_superset_filter (p : Params ℝ) (c : Constraints ℝ) (pose : Iso ℝ) (prev : J6 ℝ)
    (hdof : p.dof ≠ 5) :
    ∀ s ∈ c.filter ((⟨p, none⟩ : Opw ℝ).inverseContinuing pose prev),
      s ∈ (⟨p, some c⟩ : Opw ℝ).inverseContinuing pose prev := by
  intro s hs
  rw [Constraints.filter, List.mem_filter] at hs
  exact continuing_superset p c pose prev hdof s hs.1 hs.2

/-- [R] together with C08: the constrained answer lies between the filtered unconstrained answer and
the set of compliant vectors -/
theorem continuing_sandwich (p : Params ℝ) (c : Constraints ℝ) (pose : Iso ℝ) (prev : J6 ℝ)
    (hdof : p.dof ≠ 5) (s : J6 ℝ) :
    (s ∈ (⟨p, none⟩ : Opw ℝ).inverseContinuing pose prev ∧ c.compliant s = true →
      s ∈ (⟨p, some c⟩ : Opw ℝ).inverseContinuing pose prev) ∧
    (s ∈ (⟨p, some c⟩ : Opw ℝ).inverseContinuing pose prev → c.compliant s = true) :=
  ⟨fun h => continuing_superset p c pose prev hdof s h.1 h.2,
    fun h => C08.inverseContinuing_all_compliant (k := ⟨p, some c⟩) rfl h⟩

/-- constraints that every vector satisfies: centres `0`, tolerances `4 ≥ π` -/
noncomputable def wideCons : Constraints ℝ :=
  ⟨Nearest.zero6, Nearest.zero6, Nearest.zero6, ⟨4, 4, 4, 4, 4, 4⟩, byPrev⟩

theorem wideCons_compliant (s : J6 ℝ) : wideCons.compliant s = true := by
  have h : ∀ a : ℝ, insideBounds a 0 4 = true := fun a =>
    Limits.insideBounds_of_pi_le a 0 Real.pi_le_four
  simp only [Constraints.compliant, wideCons, Nearest.zero6, h, Bool.and_self]

/-- the example robot, pose and solution of C04: the unconstrained answer is non-empty … -/
theorem ex_unconstrained : Nearest.zero6.normalizeNear Nearest.zero6 ∈
    (⟨Nearest.exParams, none⟩ : Opw ℝ).inverseContinuing Nearest.exPose Nearest.zero6 :=
  C04.inverse_subset_inverseContinuing Nearest.exOpw Nearest.exPose Nearest.zero6 Nearest.ex_dof
    Nearest.zero6 Nearest.ex_mem_inverse

/-- … so the hypotheses of `continuing_superset` are jointly satisfiable -/
example : Nearest.zero6.normalizeNear Nearest.zero6 ∈
    (⟨Nearest.exParams, some wideCons⟩ : Opw ℝ).inverseContinuing Nearest.exPose Nearest.zero6 :=
  continuing_superset Nearest.exParams wideCons Nearest.exPose Nearest.zero6 Nearest.ex_dof _
    ex_unconstrained (wideCons_compliant _)

/-- and of `continuing_superset_partial` -/
example : Nearest.zero6.normalizeNear Nearest.zero6 ∈
    (⟨Nearest.exParams, some wideCons⟩ : Opw ℝ).inverseContinuing Nearest.exPose Nearest.zero6 :=
  continuing_superset_partial Nearest.exParams wideCons Nearest.exPose Nearest.zero6 Nearest.ex_dof
    Nearest.zero6 Nearest.ex_mem (wideCons_compliant _)

/-- the generic theorem at `Float` (the objects of `Sound.lean`); `isNaN` on `Float` is opaque to the
kernel and the periodicity of the limits check is an arithmetic fact, so both stay hypotheses -/
example (hprev : isNaN Ex.prev.j1 = false)
    (hper : ∀ a : J6 Float, Ex.cons.compliant (a.normalizeNear Ex.prev) = Ex.cons.compliant a)
    (s : J6 Float) (hs : s ∈ Ex.k6.inverseContinuing Ex.pose Ex.prev)
    (hc : Ex.cons.compliant s = true) : s ∈ Ex.k6c.inverseContinuing Ex.pose Ex.prev :=
  continuing_superset_generic Ex.p6 Ex.cons Ex.pose Ex.prev Ex.p6_dof hprev hper s hs hc

end Opw.C08b
