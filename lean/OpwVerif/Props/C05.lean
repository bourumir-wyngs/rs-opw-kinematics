/-
  C05 — Wrist singularity (`kinematic_singularity`, the J4/J6 redistribution of
  `inverse_continuing`): a configuration is reported wrist-singular exactly when the rotation axes
  of joints 4 and 6 are collinear inside the documented 0.01 degree band, on either side of every
  multiple of π of θ5, whatever the robot's offsets and sign conventions; the recovered answer
  moves J4 and J6 by the same amount from their previous values.

  NOT proved: that the first answer of `inverse_continuing` at a singular pose IS the previous joint
  vector (the "J4/J6 do not jump" half of the property).  It depends on IK completeness and on `f64`
  rounding at `cos θ5 = 1`, and is checked on sampled poses only.

  The model text of `Kin.lean` in exact real arithmetic.  The facts about the band
  `∃ k : ℤ, |x − kπ| < thr` and `rem_euclid` over ℝ are in `Lemmas/Angle.lean`; `Lemmas/Wrist.lean`
  gives the axis of joint 6 in the frame of link 4, the rest of the geometry is here
  (`axes_collinear`).
-/
import OpwVerif.Lemmas.Wrist
import OpwVerif.Lemmas.Flip
import Mathlib.Analysis.Real.Pi.Bounds
namespace Opw.C05
open Opw Opw.Wrist

/-- the `f64` constant `SINGULARITY_ANGLE_THR` of the source, exactly -/
theorem singThr_real : (singThr : ℝ) = 6439128407179665 / 2 ^ 65 := by
  show ((Gen.singThrM : ℤ) : ℝ) * (2 : ℝ) ^ Gen.singThrE = _
  simp only [Gen.singThrM, Gen.singThrE]
  norm_num

theorem singThr_pos : (0 : ℝ) < singThr := by rw [singThr_real]; norm_num

theorem singThr_lt : (singThr : ℝ) < 1 / 1000 := by rw [singThr_real]; norm_num

theorem singThr_lt_half_pi : (singThr : ℝ) < Real.pi / 2 :=
  singThr_lt.trans ((by norm_num : (1 / 1000 : ℝ) < 3 / 2).trans
    (div_lt_div_of_pos_right Real.pi_gt_three two_pos))

/-- the constant is the documented 0.01 degree, in radians, to within `7e-21` (a quarter of the
spacing `2^-65` of doubles at that magnitude) -/
theorem singThr_eq_hundredth_degree_tight : |(singThr : ℝ) - 0.01 * Real.pi / 180| < 7e-21 := by
  -- with `c` the constant, `(c ± 7e-21) · 18000` lie on either side of the twenty-digit bounds of π
  rw [singThr_real, show (0.01 : ℝ) * Real.pi / 180 = Real.pi / 18000 by ring, abs_sub_lt_iff]
  constructor
  · rw [sub_lt_comm, lt_div_iff₀ (by norm_num)]
    exact lt_of_le_of_lt (by norm_num) Real.pi_gt_d20
  · rw [sub_lt_iff_lt_add', div_lt_iff₀ (by norm_num)]
    exact Real.pi_lt_d20.trans_le (by norm_num)

theorem singThr_eq_hundredth_degree : |(singThr : ℝ) - 0.01 * Real.pi / 180| < 1e-15 :=
  singThr_eq_hundredth_degree_tight.trans (by norm_num)

/-- the verdict is the same at θ5 and at θ5 + jπ (every multiple of π has its band) -/
theorem band_shift (x thr : ℝ) (j : ℤ) :
    (∃ k : ℤ, |x + j * Real.pi - k * Real.pi| < thr) ↔ ∃ k : ℤ, |x - k * Real.pi| < thr :=
  Angle.band_shift x thr j

/-- both sides of the band: the test is symmetric in θ5 ↦ −θ5 -/
theorem band_neg (x thr : ℝ) :
    (∃ k : ℤ, |-x - k * Real.pi| < thr) ↔ ∃ k : ℤ, |x - k * Real.pi| < thr :=
  -- reindex `k ↦ −k`
  (Equiv.neg ℤ).surjective.exists.trans <| exists_congr fun k => by
    rw [Equiv.neg_apply, Int.cast_neg, neg_mul, ← neg_sub', abs_neg]

/-- the three run-time tests, with `rem_euclid` replaced by its real value -/
theorem isCloseToMultipleOfPi_real (v thr : ℝ) :
    isCloseToMultipleOfPi v thr = true ↔
      (v - 2 * Real.pi * ⌊v / (2 * Real.pi)⌋ < thr ∨
       2 * Real.pi - (v - 2 * Real.pi * ⌊v / (2 * Real.pi)⌋) < thr ∨
       |Real.pi - (v - 2 * Real.pi * ⌊v / (2 * Real.pi)⌋)| < thr) := by
  unfold isCloseToMultipleOfPi
  simp only [Bool.or_eq_true, decide_eq_true_eq, nabs_real, pi_def_real, lit2, or_assoc,
    Angle.remEuclid_real v Real.two_pi_pos]

/-- `is_close_to_multiple_of_pi(v, thr)` holds exactly when `v` is strictly within `thr` of some
integer multiple of π, on either side, whatever `thr` -/
theorem isCloseToMultipleOfPi_iff_band (v thr : ℝ) :
    isCloseToMultipleOfPi v thr = true ↔ ∃ k : ℤ, |v - k * Real.pi| < thr := by
  rw [isCloseToMultipleOfPi_real, Angle.band_floorRem,
    Angle.band_iff_of_mem (Angle.floorRem_nonneg v Real.two_pi_pos) (Angle.floorRem_lt v Real.two_pi_pos)]

/-- the same under `0 < thr < π/2`; the bounds are not used -/
theorem isCloseToMultipleOfPi_iff (v thr : ℝ) (h0 : 0 < thr) (h1 : thr < Real.pi / 2) :
    isCloseToMultipleOfPi v thr = true ↔ ∃ k : ℤ, |v - k * Real.pi| < thr :=
  isCloseToMultipleOfPi_iff_band v thr

/-- A configuration is reported wrist-singular exactly when θ5 (the sign- and offset-corrected
joint 5) is strictly within the threshold of a multiple of π, on either side of it. -/
theorem singular_iff_band (p : Params ℝ) (q : J6 ℝ) :
    kinematicSingularity p q = true ↔ ∃ k : ℤ, |(thetaOf p q).j5 - k * Real.pi| < singThr :=
  isCloseToMultipleOfPi_iff_band _ _

/-- offsets and sign conventions enter only through θ5: two robots/configurations with the same
θ5 get the same verdict -/
theorem singular_depends_on_theta5 (p p' : Params ℝ) (q q' : J6 ℝ)
    (h : (thetaOf p q).j5 = (thetaOf p' q').j5) :
    kinematicSingularity p q = kinematicSingularity p' q' := by
  show isCloseToMultipleOfPi (thetaOf p q).j5 singThr = isCloseToMultipleOfPi (thetaOf p' q').j5 singThr
  rw [h]

/-- With `a4`, `a6` the z-axes (rotation axes of joints 4 and 6) of links 4 and 6 of the reference
chain at θ: `|a4 × a6|² = sin² θ5`. -/
theorem axes_collinear (θ : J6 ℝ) :
    (V3.cross ((rot4 θ).mulVec V3.ez) ((rot6 θ).mulVec V3.ez)).normSq = Real.sin θ.j5 ^ 2 := by
  rw [rot6_mulVec_ez, (IsRot_rot4 θ).cross_normSq]
  -- `ẑ × (sin θ5, 0, cos θ5) = (0, sin θ5, 0)`
  simp only [V3.normSq, V3.dot, V3.cross, V3.ez, lit0, lit1, mul_zero, zero_mul, one_mul, sub_zero,
    add_zero, zero_add, sub_self, sq]

/-- the axes of joints 4 and 6 are parallel exactly at the multiples of π of θ5 -/
theorem axes_collinear_iff (p : Params ℝ) (q : J6 ℝ) :
    (V3.cross ((rot4 (thetaOf p q)).mulVec V3.ez) ((rot6 (thetaOf p q)).mulVec V3.ez)).normSq = 0 ↔
      ∃ k : ℤ, (thetaOf p q).j5 = k * Real.pi := by
  rw [axes_collinear, sq_eq_zero_iff, Real.sin_eq_zero_iff]
  constructor
  · rintro ⟨k, hk⟩; exact ⟨k, hk.symm⟩
  · rintro ⟨k, hk⟩; exact ⟨k, hk.symm⟩

/-- the same statement about the link poses the code itself returns
(`forward_with_joint_poses`, entries 3 and 5 of `chain`): the z-axis of a link is its unit
quaternion applied to `e_z`. -/
theorem axes_collinear_links (p : Params ℝ) (q : J6 ℝ) :
    ∃ l4 l6, (chain p q)[3]? = some l4 ∧ (chain p q)[5]? = some l6 ∧
      (V3.cross (l4.q.rotate V3.ez) (l6.q.rotate V3.ez)).normSq = Real.sin (thetaOf p q).j5 ^ 2 := by
  obtain ⟨l1, l2, l3, l4, l5, l6, hc, -, -, -, h4, -, h6⟩ := chainTheta_links p (thetaOf p q)
  refine ⟨l4, l6, by unfold chain; rw [hc]; rfl, by unfold chain; rw [hc]; rfl, ?_⟩
  rw [Quat.rotate_eq_mulVec _ h4.unit, Quat.rotate_eq_mulVec _ h6.unit, h4.rot, h6.rot]
  exact axes_collinear _

/-- C05, geometric form: a configuration is reported wrist-singular exactly when the sine of the
angle between the rotation axes of joints 4 and 6 (the length of the cross product of the two
unit axes) is below `sin(threshold)`. -/
theorem singular_iff_axes (p : Params ℝ) (q : J6 ℝ) :
    kinematicSingularity p q = true ↔
      (V3.cross ((rot4 (thetaOf p q)).mulVec V3.ez) ((rot6 (thetaOf p q)).mulVec V3.ez)).normSq
        < Real.sin singThr ^ 2 := by
  rw [singular_iff_band, Angle.band_iff_sin _ _ singThr_pos singThr_lt_half_pi, axes_collinear, sq_lt_sq,
    abs_of_nonneg (Real.sin_nonneg_of_nonneg_of_le_pi singThr_pos.le
      (singThr_lt_half_pi.trans (half_lt_self Real.pi_pos)).le)]

/-- For a singular candidate `now`, the recovered answer keeps J1–J3 of `now` and moves J4 and J6
away from their previous values by the same amount. -/
theorem recovery_equal_shift (p : Params ℝ) (previous now : J6 ℝ)
    (hs4 : p.signs.j4 = 1 ∨ p.signs.j4 = -1) (hs6 : p.signs.j6 = 1 ∨ p.signs.j6 = -1) :
    |(singularCandidate p previous now).j4 - previous.j4| =
        |(singularCandidate p previous now).j6 - previous.j6| ∧
      (singularCandidate p previous now).j1 = now.j1 ∧
      (singularCandidate p previous now).j2 = now.j2 ∧
      (singularCandidate p previous now).j3 = now.j3 := by
  refine ⟨?_, rfl, rfl, rfl⟩
  simp only [singularCandidate, add_sub_cancel_left, abs_mul, IsSign.abs hs4, IsSign.abs hs6]

/-- moving J4 and J6 by `jd·s4` and `jd·s6` adds `2 jd` to `J4·s4 + J6·s6` … -/
theorem shift_sum {s4 s6 : ℝ} (h4 : s4 * s4 = 1) (h6 : s6 * s6 = 1) (a b jd : ℝ) :
    (a + jd * s4) * s4 + (b + jd * s6) * s6 = a * s4 + b * s6 + 2 * jd := by
  linear_combination jd * (h4 + h6)

/-- … and leaves `J4·s4 − J6·s6` where it was -/
theorem shift_diff {s4 s6 : ℝ} (h4 : s4 * s4 = 1) (h6 : s6 * s6 = 1) (a b jd : ℝ) :
    (a + jd * s4) * s4 - (b + jd * s6) * s6 = a * s4 - b * s6 := by
  linear_combination jd * (h4 - h6)

/-- In the θ5 ≈ 0 branch the sign-corrected sum J4·s4 + J6·s6 (the only combination the pose
depends on there) of the recovered answer is that of `now`, modulo whole turns. -/
theorem recovery_sum_preserved (p : Params ℝ) (previous now : J6 ℝ)
    (hs4 : p.signs.j4 = 1 ∨ p.signs.j4 = -1) (hs6 : p.signs.j6 = 1 ∨ p.signs.j6 = -1)
    (hz : areAnglesClose (now.j5 * p.signs.j5 - p.offsets.j5) 0 = true) :
    ∃ k : ℤ, (singularCandidate p previous now).j4 * p.signs.j4 +
        (singularCandidate p previous now).j6 * p.signs.j6 =
      now.j4 * p.signs.j4 + now.j6 * p.signs.j6 + 2 * Real.pi * k := by
  simp only [singularCandidate, lit0, hz, if_true, lit2]
  obtain ⟨k, hk⟩ := normPi_turn (now.j4 * p.signs.j4 + now.j6 * p.signs.j6 -
    (previous.j4 * p.signs.j4 + previous.j6 * p.signs.j6))
  refine ⟨k, ?_⟩
  -- previous sum + (sum of `now` − previous sum + 2πk)
  rw [shift_sum (IsSign.mul_self hs4) (IsSign.mul_self hs6), hk, mul_div_cancel₀ _ two_ne_zero,
    ← add_assoc, add_sub_cancel]

/-- The equal shift leaves J4·s4 − J6·s6 at its PREVIOUS value (in both branches; it matters for θ5 ≈ π,
where the pose depends on that difference); the candidate is then subject to the forward cross-check
of `shiftStep`. -/
theorem recovery_diff_previous (p : Params ℝ) (previous now : J6 ℝ)
    (hs4 : p.signs.j4 = 1 ∨ p.signs.j4 = -1) (hs6 : p.signs.j6 = 1 ∨ p.signs.j6 = -1) :
    (singularCandidate p previous now).j4 * p.signs.j4 -
        (singularCandidate p previous now).j6 * p.signs.j6 =
      previous.j4 * p.signs.j4 - previous.j6 * p.signs.j6 :=
  shift_diff (IsSign.mul_self hs4) (IsSign.mul_self hs6) _ _ _

/-- non-vacuity: a robot with mixed sign conventions and offsets (the parameter set of `C02.pEx`;
this file does not import `Props/C02.lean`) -/
noncomputable def pEx : Params ℝ :=
  { a1 := 0.025, a2 := -0.035, b := 0, c1 := 0.4, c2 := 0.315, c3 := 0.365, c4 := 0.08,
    offsets := ⟨0, 0, -Real.pi / 2, 0, 0.3, Real.pi⟩, signs := ⟨1, 1, -1, -1, -1, -1⟩, dof := 6 }

example : pEx.signs.j4 = 1 ∨ pEx.signs.j4 = -1 := Or.inr rfl
example : pEx.signs.j6 = 1 ∨ pEx.signs.j6 = -1 := Or.inr rfl

/-- `J5 = −0.3` is θ5 = 0 for this robot: singular -/
example : kinematicSingularity pEx ⟨0, 0, 0, 0, -0.3, 0⟩ = true := by
  rw [singular_iff_band]
  refine ⟨0, ?_⟩
  have : (thetaOf pEx ⟨0, 0, 0, 0, -0.3, 0⟩).j5 = 0 := by
    simp only [thetaOf, pEx]; norm_num
  rw [this, Int.cast_zero, zero_mul, sub_zero, abs_zero]
  exact singThr_pos

/-- `J5 = 0` is θ5 = −0.3 for this robot: not singular -/
example : kinematicSingularity pEx ⟨0, 0, 0, 0, 0, 0⟩ = false := by
  have e : (thetaOf pEx ⟨0, 0, 0, 0, 0, 0⟩).j5 = -0.3 := by
    simp only [thetaOf, pEx]; norm_num
  rw [Bool.eq_false_iff, Ne, singular_iff_band, e, Angle.band_iff_sin _ _ singThr_pos singThr_lt_half_pi,
    Real.sin_neg, abs_neg, not_lt]
  -- `sin` is increasing on `[−π/2, π/2]`, and `−π/2 ≤ singThr < 0.3 ≤ π/2`
  refine ((Real.sin_lt_sin_of_lt_of_le_pi_div_two ?_ ?_ ?_).le).trans (le_abs_self _)
  · exact (neg_lt_zero.mpr Real.pi_div_two_pos).le.trans singThr_pos.le
  · exact (by norm_num : (0.3 : ℝ) ≤ 3 / 2).trans
      (div_le_div_of_nonneg_right Real.pi_gt_three.le zero_le_two)
  · exact singThr_lt.trans (by norm_num)

end Opw.C05
