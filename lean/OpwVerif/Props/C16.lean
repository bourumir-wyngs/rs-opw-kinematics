/-
  C16 — Parallelogram coupling.

  "For any coupling (driven joint, coupled joint, scaling), the wrapped robot's forward pose is the
  inner robot's pose at the joint vector with the coupled joint reduced by scaling times the driven
  joint, the same holds for all link poses, and every answer of every inverse entry point maps back
  through the wrapper's forward onto the requested pose; stacking two couplings composes."

  Joint indices address SLOTS: `J6.get`/`J6.set` treat every index `≥ 5` as joint 6, so the
  round trip needs `slot driven ≠ slot coupled` (`slot n = min n 5`), not just `driven ≠ coupled`.
  Kinds: [R] real arithmetic, [G] generic (any number type, holds of the Float reading itself).
-/
import OpwVerif.Lemmas.Stack
namespace Opw.C16

section Forward
variable {R : Type} [OpwNum R] (i : Kin R) (s : R) (d c : Nat) (q : J6 R)
open scoped GenericNum

/-- `Parallelogram::forward` and `forward_with_joint_poses` un-couple the joint vector, then ask the wrapped robot -/
theorem para_forward : (Kin.para i s d c).forward q = i.forward (paraUncouple s d c q) := rfl

theorem para_links : (Kin.para i s d c).links q = i.links (paraUncouple s d c q) := rfl

theorem paraUncouple_def : paraUncouple s d c q = q.set c (q.get c - s * q.get d) := rfl
theorem paraCouple_def : paraCouple s d c q = q.set c (q.get c + s * q.get d) := rfl

end Forward

theorem slot_def (n : Nat) : slot n = min n 5 := rfl

/-- [G] only `slot n` matters -/
theorem get_set_slot {R : Type} (q : J6 R) (v : R) (n : Nat) :
    q.get (slot n) = q.get n ∧ q.set (slot n) v = q.set n v :=
  ⟨J6.get_slot q n, J6.set_slot q v n⟩

/-- [R] On different SLOTS coupling and uncoupling are inverse to each other, for any scaling. -/
theorem para_roundtrip (s : ℝ) (d c : Nat) (h : slot d ≠ slot c) (x : J6 ℝ) :
    paraUncouple s d c (paraCouple s d c x) = x ∧ paraCouple s d c (paraUncouple s d c x) = x :=
  ⟨paraUncouple_paraCouple s d c h x, paraCouple_paraUncouple s d c h x⟩

/-- [R] the condition is on slots: distinct indices `≥ 5` both mean joint 6 and do NOT round-trip;
e.g. `driven = 5`, `coupled = 6`, scaling 1 sends joint 6 from 1 to 0. -/
example : (5 : Nat) ≠ 6 ∧ paraUncouple (1 : ℝ) 5 6 (paraCouple 1 5 6 ⟨0, 0, 0, 0, 0, 1⟩) ≠ ⟨0, 0, 0, 0, 0, 1⟩ := by
  refine ⟨by decide, fun h => ?_⟩
  have h6 : (1 + 1 * 1 - 1 * (1 + 1 * 1) : ℝ) = 1 := congrArg J6.j6 h
  norm_num at h6

/-- [R] counter-example for `driven = coupled`: with scaling 1 on joint 1 the couple step doubles
the joint and the uncouple step subtracts the doubled value from itself. -/
example : paraCouple (1 : ℝ) 0 0 ⟨1, 0, 0, 0, 0, 0⟩ = ⟨2, 0, 0, 0, 0, 0⟩ ∧
    paraUncouple (1 : ℝ) 0 0 (paraCouple 1 0 0 ⟨1, 0, 0, 0, 0, 0⟩) = ⟨0, 0, 0, 0, 0, 0⟩ ∧
    paraUncouple (1 : ℝ) 0 0 (paraCouple 1 0 0 ⟨1, 0, 0, 0, 0, 0⟩) ≠ ⟨1, 0, 0, 0, 0, 0⟩ := by
  have h1 : paraCouple (1 : ℝ) 0 0 ⟨1, 0, 0, 0, 0, 0⟩ = ⟨2, 0, 0, 0, 0, 0⟩ := by
    show (⟨1 + 1 * 1, 0, 0, 0, 0, 0⟩ : J6 ℝ) = _
    norm_num
  have h2 : paraUncouple (1 : ℝ) 0 0 ⟨2, 0, 0, 0, 0, 0⟩ = ⟨0, 0, 0, 0, 0, 0⟩ := by
    show (⟨2 - 1 * 2, 0, 0, 0, 0, 0⟩ : J6 ℝ) = _
    norm_num
  rw [h1, h2]
  exact ⟨rfl, rfl, fun h => zero_ne_one (congrArg J6.j1 h)⟩

/-- [R] `driven = coupled = 0`: the round trip scales joint 1 by `1 - s²` (the instance at index 0 of
what happens on any equal pair of slots) -/
theorem para_roundtrip_same_slot (s : ℝ) (x : J6 ℝ) :
    (paraUncouple s 0 0 (paraCouple s 0 0 x)).j1 = (1 - s * s) * x.j1 := by
  show x.j1 + s * x.j1 - s * (x.j1 + s * x.j1) = _
  ring

section MapsBack

/-- [G] the answer lists: the inner robot's answers, coupled -/
theorem para_answers {R : Type} [OpwNum R] (i : Kin R) (sc : R) (d c : Nat) (pose : Iso R)
    (prev : J6 R) (j6 : R) :
    (Kin.para i sc d c).inverse pose = (i.inverse pose).map (paraCouple sc d c) ∧
    (Kin.para i sc d c).inverseContinuing pose prev =
      (i.inverseContinuing pose prev).map (paraCouple sc d c) ∧
    (Kin.para i sc d c).inverse5dof pose j6 = (i.inverse5dof pose j6).map (paraCouple sc d c) ∧
    (Kin.para i sc d c).inverseContinuing5dof pose prev =
      (i.inverseContinuing5dof pose prev).map (paraCouple sc d c) :=
  ⟨rfl, rfl, rfl, rfl⟩

/-- [G] passed through unchanged; note that the singularity verdict is asked of the inner robot at the
COUPLED vector -/
theorem para_singularity_constraints {R : Type} [OpwNum R] (i : Kin R) (sc : R) (d c : Nat)
    (q : J6 R) :
    (Kin.para i sc d c).singularity q = i.singularity q ∧
    (Kin.para i sc d c).constraints = i.constraints := ⟨rfl, rfl⟩

variable (i : Kin ℝ) (sc : ℝ) (d c : Nat) (pose : Iso ℝ) (prev : J6 ℝ) (j6 : ℝ)

theorem para_forward_couple (h : slot d ≠ slot c) (s0 : J6 ℝ) :
    (Kin.para i sc d c).forward (paraCouple sc d c s0) = i.forward s0 :=
  congrArg i.forward (paraUncouple_paraCouple sc d c h s0)

/-- [R] What the four entry points share: the answers are a list `l` of inner answers, coupled. -/
theorem mem_map_paraCouple (h : slot d ≠ slot c) {l : List (J6 ℝ)} {s : J6 ℝ}
    (hs : s ∈ l.map (paraCouple sc d c)) :
    ∃ s0 ∈ l, s = paraCouple sc d c s0 ∧ (Kin.para i sc d c).forward s = i.forward s0 := by
  obtain ⟨s0, h0, rfl⟩ := List.mem_map.mp hs
  exact ⟨s0, h0, rfl, para_forward_couple i sc d c h s0⟩

theorem forall_map_paraCouple (h : slot d ≠ slot c) (P : Iso ℝ → Prop) {l : List (J6 ℝ)}
    (H : ∀ s0 ∈ l, P (i.forward s0)) :
    ∀ s ∈ l.map (paraCouple sc d c), P ((Kin.para i sc d c).forward s) := by
  intro s hs
  obtain ⟨s0, h0, -, hf⟩ := mem_map_paraCouple i sc d c h hs
  rw [hf]; exact H s0 h0

/-- [R] `inverse`: every answer is a coupled inner answer `s0`, and the wrapper's forward at the answer
is the inner robot's forward at `s0`.  That `i.forward s0` reproduces `pose` is not claimed here. -/
theorem para_answers_map_back (h : slot d ≠ slot c) (s : J6 ℝ)
    (hs : s ∈ (Kin.para i sc d c).inverse pose) :
    ∃ s0 ∈ i.inverse pose, s = paraCouple sc d c s0 ∧ (Kin.para i sc d c).forward s = i.forward s0 :=
  mem_map_paraCouple i sc d c h hs

/-- [R] `inverse_continuing` -/
theorem para_answers_map_back_continuing (h : slot d ≠ slot c) (s : J6 ℝ)
    (hs : s ∈ (Kin.para i sc d c).inverseContinuing pose prev) :
    ∃ s0 ∈ i.inverseContinuing pose prev,
      s = paraCouple sc d c s0 ∧ (Kin.para i sc d c).forward s = i.forward s0 :=
  mem_map_paraCouple i sc d c h hs

/-- [R] `inverse_5dof` -/
theorem para_answers_map_back_5dof (h : slot d ≠ slot c) (s : J6 ℝ)
    (hs : s ∈ (Kin.para i sc d c).inverse5dof pose j6) :
    ∃ s0 ∈ i.inverse5dof pose j6,
      s = paraCouple sc d c s0 ∧ (Kin.para i sc d c).forward s = i.forward s0 :=
  mem_map_paraCouple i sc d c h hs

/-- [R] `inverse_continuing_5dof` -/
theorem para_answers_map_back_continuing5dof (h : slot d ≠ slot c) (s : J6 ℝ)
    (hs : s ∈ (Kin.para i sc d c).inverseContinuing5dof pose prev) :
    ∃ s0 ∈ i.inverseContinuing5dof pose prev,
      s = paraCouple sc d c s0 ∧ (Kin.para i sc d c).forward s = i.forward s0 :=
  mem_map_paraCouple i sc d c h hs

/-- [R] Headline: any relation `P pose ·` that the inner robot's forward satisfies at all of its
answers (equality with the pose, same rigid motion, within tolerance, …) the wrapper's forward
satisfies at all of its answers, for all four entry points. -/
theorem para_maps_back (h : slot d ≠ slot c) (P : Iso ℝ → Iso ℝ → Prop) :
    ((∀ s0 ∈ i.inverse pose, P pose (i.forward s0)) →
      ∀ s ∈ (Kin.para i sc d c).inverse pose, P pose ((Kin.para i sc d c).forward s)) ∧
    ((∀ s0 ∈ i.inverseContinuing pose prev, P pose (i.forward s0)) →
      ∀ s ∈ (Kin.para i sc d c).inverseContinuing pose prev,
        P pose ((Kin.para i sc d c).forward s)) ∧
    ((∀ s0 ∈ i.inverse5dof pose j6, P pose (i.forward s0)) →
      ∀ s ∈ (Kin.para i sc d c).inverse5dof pose j6, P pose ((Kin.para i sc d c).forward s)) ∧
    ((∀ s0 ∈ i.inverseContinuing5dof pose prev, P pose (i.forward s0)) →
      ∀ s ∈ (Kin.para i sc d c).inverseContinuing5dof pose prev,
        P pose ((Kin.para i sc d c).forward s)) :=
  ⟨forall_map_paraCouple i sc d c h (P pose), forall_map_paraCouple i sc d c h (P pose),
    forall_map_paraCouple i sc d c h (P pose), forall_map_paraCouple i sc d c h (P pose)⟩

theorem para_maps_back_eq (h : slot d ≠ slot c) (H : ∀ s0 ∈ i.inverse pose, i.forward s0 = pose) :
    ∀ s ∈ (Kin.para i sc d c).inverse pose, (Kin.para i sc d c).forward s = pose :=
  forall_map_paraCouple i sc d c h (· = pose) H

theorem para_links_couple (h : slot d ≠ slot c) (s0 : J6 ℝ) :
    (Kin.para i sc d c).links (paraCouple sc d c s0) = i.links s0 :=
  congrArg i.links (paraUncouple_paraCouple sc d c h s0)

end MapsBack

section Compose
variable {R : Type} [OpwNum R] (i : Kin R) (s1 s2 : R) (d1 c1 d2 c2 : Nat)
open scoped GenericNum

/-- [G] the outer coupling is undone first -/
theorem para_compose (q : J6 R) :
    (Kin.para (Kin.para i s1 d1 c1) s2 d2 c2).forward q =
      i.forward (paraUncouple s1 d1 c1 (paraUncouple s2 d2 c2 q)) := rfl

theorem para_compose_links (q : J6 R) :
    (Kin.para (Kin.para i s1 d1 c1) s2 d2 c2).links q =
      i.links (paraUncouple s1 d1 c1 (paraUncouple s2 d2 c2 q)) := rfl

/-- [G] inverse direction: the inner coupling is applied first -/
theorem para_compose_inverse (pose : Iso R) (prev : J6 R) (j6 : R) :
    (Kin.para (Kin.para i s1 d1 c1) s2 d2 c2).inverse pose =
      (i.inverse pose).map (fun s0 => paraCouple s2 d2 c2 (paraCouple s1 d1 c1 s0)) ∧
    (Kin.para (Kin.para i s1 d1 c1) s2 d2 c2).inverseContinuing pose prev =
      (i.inverseContinuing pose prev).map (fun s0 => paraCouple s2 d2 c2 (paraCouple s1 d1 c1 s0)) ∧
    (Kin.para (Kin.para i s1 d1 c1) s2 d2 c2).inverse5dof pose j6 =
      (i.inverse5dof pose j6).map (fun s0 => paraCouple s2 d2 c2 (paraCouple s1 d1 c1 s0)) ∧
    (Kin.para (Kin.para i s1 d1 c1) s2 d2 c2).inverseContinuing5dof pose prev =
      (i.inverseContinuing5dof pose prev).map
        (fun s0 => paraCouple s2 d2 c2 (paraCouple s1 d1 c1 s0)) :=
  ⟨List.map_map .., List.map_map .., List.map_map .., List.map_map ..⟩

theorem para_compose_answers (pose : Iso R) (s : J6 R)
    (hs : s ∈ (Kin.para (Kin.para i s1 d1 c1) s2 d2 c2).inverse pose) :
    ∃ s0 ∈ i.inverse pose, s = paraCouple s2 d2 c2 (paraCouple s1 d1 c1 s0) := by
  obtain ⟨_, h1, rfl⟩ := List.mem_map.mp hs
  obtain ⟨s0, h0, rfl⟩ := List.mem_map.mp h1
  exact ⟨s0, h0, rfl⟩

end Compose

/-- two nested parallelograms: a vector coupled through both is mapped by `forward` to the inner robot's pose -/
theorem para_compose_maps_back (i : Kin ℝ) (s1 s2 : ℝ) (d1 c1 d2 c2 : Nat)
    (h1 : slot d1 ≠ slot c1) (h2 : slot d2 ≠ slot c2) (s0 : J6 ℝ) :
    (Kin.para (Kin.para i s1 d1 c1) s2 d2 c2).forward
      (paraCouple s2 d2 c2 (paraCouple s1 d1 c1 s0)) = i.forward s0 := by
  rw [para_compose, paraUncouple_paraCouple s2 d2 c2 h2, paraUncouple_paraCouple s1 d1 c1 h1]

/-- the usual parallelogram: joint 3 coupled to joint 2 with scaling 1 (indices 1 and 2) -/
example (x : J6 ℝ) :
    paraCouple (1 : ℝ) 1 2 x = ⟨x.j1, x.j2, x.j3 + x.j2, x.j4, x.j5, x.j6⟩ ∧
    paraUncouple (1 : ℝ) 1 2 x = ⟨x.j1, x.j2, x.j3 - x.j2, x.j4, x.j5, x.j6⟩ := by
  constructor
  · show (⟨x.j1, x.j2, x.j3 + 1 * x.j2, x.j4, x.j5, x.j6⟩ : J6 ℝ) = _
    rw [one_mul]
  · show (⟨x.j1, x.j2, x.j3 - 1 * x.j2, x.j4, x.j5, x.j6⟩ : J6 ℝ) = _
    rw [one_mul]

example (i : Kin ℝ) (q : J6 ℝ) :
    (Kin.para i 1 1 2).forward q = i.forward ⟨q.j1, q.j2, q.j3 - 1 * q.j2, q.j4, q.j5, q.j6⟩ := rfl

example (x : J6 ℝ) :
    paraUncouple (1 : ℝ) 1 2 (paraCouple 1 1 2 x) = x ∧ paraCouple (1 : ℝ) 1 2 (paraUncouple 1 1 2 x) = x :=
  para_roundtrip 1 1 2 (by decide) x

example (i : Kin ℝ) (pose : Iso ℝ) (s : J6 ℝ) (hs : s ∈ (Kin.para i 1 1 2).inverse pose) :
    ∃ s0 ∈ i.inverse pose, s = paraCouple 1 1 2 s0 ∧ (Kin.para i 1 1 2).forward s = i.forward s0 :=
  para_answers_map_back i 1 1 2 pose (by decide) s hs

/-- in the model an out-of-range coupled index addresses joint 6 (the Rust `joints[coupled]` panics) -/
example (i : Kin ℝ) (s0 : J6 ℝ) :
    (Kin.para i 2 0 7).forward (paraCouple 2 0 7 s0) = i.forward s0 :=
  para_forward_couple i 2 0 7 (by decide) s0

/-- two couplings: (1 → 2, scaling 1) inside (0 → 3, scaling 1/2) -/
example (i : Kin ℝ) (s0 : J6 ℝ) :
    (Kin.para (Kin.para i 1 1 2) (1 / 2) 0 3).forward
      (paraCouple (1 / 2) 0 3 (paraCouple 1 1 2 s0)) = i.forward s0 :=
  para_compose_maps_back i 1 (1 / 2) 1 2 0 3 (by decide) (by decide) s0

/-- the `Float` stack of `Sound.lean` -/
example : (Kin.para Ex.stack6 0.5 1 2).inverse Ex.pose =
    (Ex.stack6.inverse Ex.pose).map (paraCouple 0.5 1 2) :=
  (para_answers Ex.stack6 0.5 1 2 Ex.pose Ex.prev 0).1

end Opw.C16
