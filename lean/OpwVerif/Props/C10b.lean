/-
  C10b — the geometric fact behind the hypothesis `PrefilterSound` of `Props/C10.lean`.
  The per-pair decision of `collisions.rs` at a positive safety distance `r` first asks whether the
  axis-aligned bounding box of the smaller shape, grown by `r` on every side (parry3d
  `Aabb::loosened`), meets the bounding box of the other shape (`Aabb::intersects`); only then the
  exact distance is computed.  Over ℝ this pre-filter is conservative: two bodies that have points
  within `r` of each other always pass it, whichever of the two boxes is the loosened one.
  All theorems are about boxes and point sets over `V3 ℝ`.  The link to `C10.PrefilterSound` is NOT
  proved: that hypothesis speaks of the oracle `Scene.aabbNear`, and `Box` here never meets `Scene`;
  that the oracle computes these boxes of the shapes is trusted (parry3d).
-/
import OpwVerif.Lemmas.GeomReal
namespace Opw.C10b
/-- an axis-aligned box (parry3d `Aabb`: `mins`, `maxs`) -/
structure Box where
  lo : V3 ℝ
  hi : V3 ℝ

/-- the point `p` lies in the box -/
def Box.contains (b : Box) (p : V3 ℝ) : Prop :=
  (b.lo.x ≤ p.x ∧ p.x ≤ b.hi.x) ∧ (b.lo.y ≤ p.y ∧ p.y ≤ b.hi.y) ∧ (b.lo.z ≤ p.z ∧ p.z ≤ b.hi.z)

/-- parry3d `Aabb::loosened(r)` -/
def Box.loosened (b : Box) (r : ℝ) : Box :=
  ⟨⟨b.lo.x - r, b.lo.y - r, b.lo.z - r⟩, ⟨b.hi.x + r, b.hi.y + r, b.hi.z + r⟩⟩

/-- parry3d `Aabb::intersects` -/
def Box.intersects (a b : Box) : Prop :=
  (a.lo.x ≤ b.hi.x ∧ b.lo.x ≤ a.hi.x) ∧ (a.lo.y ≤ b.hi.y ∧ b.lo.y ≤ a.hi.y) ∧
    (a.lo.z ≤ b.hi.z ∧ b.lo.z ≤ a.hi.z)

/-! A box is a product of three intervals, `intersects` and `contains` are conjunctions over the
coordinates, and `loosened` acts on each interval alone: each fact about boxes below is the fact
about intervals `[lo, hi]`, `[lo', hi']`, three times. -/

private theorem loosen_symm₁ {lo hi lo' hi' r : ℝ} :
    (lo - r ≤ hi' ∧ lo' ≤ hi + r) ↔ (lo' - r ≤ hi ∧ lo ≤ hi' + r) := by
  rw [sub_le_iff_le_add, sub_le_iff_le_add, and_comm]

private theorem loosen_mono₁ {lo hi lo' hi' r s : ℝ} (hrs : r ≤ s)
    (h : lo - r ≤ hi' ∧ lo' ≤ hi + r) : lo - s ≤ hi' ∧ lo' ≤ hi + s :=
  ⟨(sub_le_sub_left hrs lo).trans h.1, h.2.trans (add_le_add_right hrs hi)⟩

private theorem conservative₁ {lo hi lo' hi' p q r : ℝ} (hp : lo ≤ p ∧ p ≤ hi)
    (hq : lo' ≤ q ∧ q ≤ hi') (hd : |p - q| ≤ r) : lo - r ≤ hi' ∧ lo' ≤ hi + r := by
  obtain ⟨h1, h2⟩ := abs_le.mp hd
  exact ⟨by linarith [hp.1, hq.2], by linarith [hp.2, hq.1]⟩

theorem intersects_symm {a b : Box} (h : a.intersects b) : b.intersects a := by
  obtain ⟨⟨h1, h2⟩, ⟨h3, h4⟩, h5, h6⟩ := h
  exact ⟨⟨h2, h1⟩, ⟨h4, h3⟩, h6, h5⟩

/-- the code loosens the box of the shape with fewer vertices; the choice is immaterial over ℝ -/
theorem loosened_intersects_symm (a b : Box) (r : ℝ) :
    (a.loosened r).intersects b ↔ (b.loosened r).intersects a :=
  and_congr loosen_symm₁ (and_congr loosen_symm₁ loosen_symm₁)

/-- the filter is monotone in `r` -/
theorem loosened_intersects_mono {a b : Box} {r s : ℝ} (hrs : r ≤ s)
    (h : (a.loosened r).intersects b) : (a.loosened s).intersects b :=
  ⟨loosen_mono₁ hrs h.1, loosen_mono₁ hrs h.2.1, loosen_mono₁ hrs h.2.2⟩

/-- the AABB pre-filter never discards a pair of boxes that contain points within distance `r` -/
theorem prefilter_conservative {a b : Box} {p q : V3 ℝ} {r : ℝ} (hp : a.contains p)
    (hq : b.contains q) (hd : (p.sub q).norm ≤ r) : (a.loosened r).intersects b := by
  obtain ⟨hx, hy, hz⟩ := V3.abs_comp_le_norm (p.sub q)
  exact ⟨conservative₁ hp.1 hq.1 (hx.trans hd), conservative₁ hp.2.1 hq.2.1 (hy.trans hd),
    conservative₁ hp.2.2 hq.2.2 (hz.trans hd)⟩

/-- bodies as point sets `A`, `B` with bounding boxes `a`, `b`: if some `p ∈ A`, `q ∈ B` are
within `r`, the loosened box of EITHER body intersects the box of the other (the code loosens the
box of the body with fewer vertices, so both orders are needed) -/
theorem prefilter_conservative_sets {A B : Set (V3 ℝ)} {a b : Box} {r : ℝ}
    (hA : A ⊆ {p | a.contains p}) (hB : B ⊆ {p | b.contains p})
    (h : ∃ p ∈ A, ∃ q ∈ B, (p.sub q).norm ≤ r) :
    (a.loosened r).intersects b ∧ (b.loosened r).intersects a := by
  obtain ⟨p, hp, q, hq, hd⟩ := h
  exact ⟨prefilter_conservative (hA hp) (hB hq) hd,
    prefilter_conservative (hB hq) (hA hp) (by rw [V3.norm_sub_comm]; exact hd)⟩

/-- contrapositive, the form the code relies on: a pair rejected by the pre-filter has no two
points within `r`, i.e. the exact distance test would have answered "no collision" as well -/
theorem rejected_imp_far {A B : Set (V3 ℝ)} {a b : Box} {r : ℝ}
    (hA : A ⊆ {p | a.contains p}) (hB : B ⊆ {p | b.contains p})
    (h : ¬ (a.loosened r).intersects b) : ∀ p ∈ A, ∀ q ∈ B, r < (p.sub q).norm := by
  intro p hp q hq
  by_contra hn
  exact h (prefilter_conservative_sets hA hB ⟨p, hp, q, hq, not_lt.mp hn⟩).1

/-- the unit cube `[0,1]³` -/
def cube0 : Box := ⟨⟨0, 0, 0⟩, ⟨1, 1, 1⟩⟩
/-- the unit cube shifted by `1.3` along `x`: a gap of `0.3` to `cube0` -/
def cube1 : Box := ⟨⟨1.3, 0, 0⟩, ⟨2.3, 1, 1⟩⟩

/-! The closest corner points of the two cubes, exactly `0.3` apart. -/

private theorem cube0_corner : cube0.contains ⟨1, 0, 0⟩ := by
  simp only [Box.contains, cube0]; norm_num

private theorem cube1_corner : cube1.contains ⟨1.3, 0, 0⟩ := by
  simp only [Box.contains, cube1]; norm_num

private theorem corner_dist : ((⟨1, 0, 0⟩ : V3 ℝ).sub ⟨1.3, 0, 0⟩).norm ≤ 0.3 := by
  rw [V3.norm_eq, V3.normSq_eq]
  simp only [V3.sub]
  exact Real.sqrt_le_iff.mpr ⟨by norm_num, by norm_num⟩

/-- hypotheses of `prefilter_conservative` hold on the two cubes (closest corner points, exactly
`0.3` apart), so loosened by `0.3` they intersect … -/
example : (cube0.loosened 0.3).intersects cube1 :=
  prefilter_conservative cube0_corner cube1_corner corner_dist

/-- … and the set version on the two singleton bodies, in both orders … -/
example : (cube0.loosened 0.3).intersects cube1 ∧ (cube1.loosened 0.3).intersects cube0 := by
  refine prefilter_conservative_sets (A := {⟨1, 0, 0⟩}) (B := {⟨1.3, 0, 0⟩}) ?_ ?_
    ⟨_, rfl, _, rfl, ?_⟩
  · rintro _ rfl; exact cube0_corner
  · rintro _ rfl; exact cube1_corner
  -- given in place of `?_`, `corner_dist` is unified before the two points are known, which is slow
  · exact corner_dist

/-- … while loosened by only `0.2` they do not: the filter does reject pairs (not vacuous) -/
example : ¬ (cube0.loosened 0.2).intersects cube1 := by
  simp only [Box.intersects, Box.loosened, cube0, cube1]; norm_num

end Opw.C10b
