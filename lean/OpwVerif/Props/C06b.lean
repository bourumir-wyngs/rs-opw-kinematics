/-
  C06b — the 5-DOF solvers return the originating J1..J5: asked for the pose of a joint vector `j`
  that is not at a shoulder, elbow or wrist singularity, and for ANY value of J6,
  `inverse_intern_5_dof` / `inverse_5dof` / `inverse` of a robot declared 5-DOF return an answer that
  agrees with `j` on joints 1..5 (modulo whole turns; exactly, when those joints lie in `(−π, π)`),
  carries the requested J6, and has exactly the requested POSITION; for `inverse_continuing_5dof` the
  agreement on joints 1..5 modulo whole turns is proved (`inverseContinuing5dof_origin`).

  The model text of `Kin.lean` in exact real arithmetic; the lemmas are in `Lemmas/FiveDof.lean`
  (the solver) and `Lemmas/Corollaries.lean` (`InsidePi5`, `normalize_near`).

  Why it works: `inverse_intern_5_dof` forms the same eight raw θ candidates as `inverse_intern`; by
  `theta_candidate_complete` one of them equals θ of `j` modulo whole turns; the translation of
  `forwardTheta` does not mention θ6 and is 2π-periodic, so the candidate, with whatever J6 is stored
  into it, has the requested position and passes `compare_xyz_only` at distance `0`.
-/
import OpwVerif.Props.C02b
import OpwVerif.Props.C06
namespace Opw.C06b
open Opw Opw.Wrist Opw.C02 Opw.IkComplete Opw.Corollaries

theorem forwardTheta_tr_indep_j6 (p : Params ℝ) (θ : J6 ℝ) (x : ℝ) :
    (forwardTheta p { θ with j6 := x }).2 = (forwardTheta p θ).2 :=
  Corollaries.forwardTheta_tr_indep_j6 p θ x

theorem forwardTheta_tr_indep_j6' (p : Params ℝ) (a b : J6 ℝ) (h1 : a.j1 = b.j1) (h2 : a.j2 = b.j2)
    (h3 : a.j3 = b.j3) (h4 : a.j4 = b.j4) (h5 : a.j5 = b.j5) :
    (forwardTheta p a).2 = (forwardTheta p b).2 :=
  forwardTheta_tr_congr5 p ⟨.of_eq h1, .of_eq h2, .of_eq h3, .of_eq h4, .of_eq h5⟩

/-- the position depends on the joints only through θ1 … θ5 modulo whole turns -/
theorem forward_t_congr5 (p : Params ℝ) {a b : J6 ℝ} (h : J5TurnEq (thetaOf p a) (thetaOf p b)) :
    (forward p a).t = (forward p b).t :=
  forwardTheta_tr_congr5 p h

/-- in joint space: the position returned by `forward` does not depend on J6 -/
theorem forward_t_indep_j6 (p : Params ℝ) (j : J6 ℝ) (x : ℝ) :
    (forward p { j with j6 := x }).t = (forward p j).t :=
  forward_t_congr5 p (J5TurnEq.refl _)

/-- `0 ≤ DISTANCE_TOLERANCE` (the generated constant, unfolded) -/
theorem distTol_nonneg : (0 : ℝ) ≤ distTol := Nearest.distTol_nonneg

/-- Completeness of `inverse_intern_5_dof`.  `J5TurnEq a b` is `aᵢ = bᵢ + 2πkᵢ` for
`i = 1 … 5`.  For every requested `j6` one answer `s` has θ1 … θ5 equal to those of `j` modulo whole
turns, `s.j6 = j6`, and exactly the position of `forward p j`. -/
theorem inverse5_origin (p : Params ℝ) (hs : SignsOk p) (j : J6 ℝ) (j6 : ℝ)
    (h : NonSingular p (thetaOf p j)) :
    ∃ s ∈ inverseIntern5 p (forward p j) j6, J5TurnEq (thetaOf p s) (thetaOf p j) ∧ s.j6 = j6 ∧
      (forward p s).t = (forward p j).t := by
  obtain ⟨t, ht, hte⟩ := theta_candidate_complete p (thetaOf p j) h
  -- the matching candidate has the requested tool point, so the 5-DOF solver keeps it
  obtain ⟨hfin, ht'⟩ := finish5_of_tr p hs (forward p j) j6
    (congrArg Prod.snd (forwardTheta_congr p hte))
  exact ⟨norm5 (jointsOf p t) j6,
    List.mem_filterMap.mpr ⟨t, by rw [forward_eq_poseOf]; exact ht, hfin⟩,
    (thetaOf_norm5_turnEq p hs t j6).trans (J5TurnEq.of_J6 hte), rfl, ht'⟩

/-- the same in joint space: `sᵢ = jᵢ + 2πkᵢ` for `i = 1 … 5` -/
theorem inverse5_origin_joint (p : Params ℝ) (hs : SignsOk p) (j : J6 ℝ) (j6 : ℝ)
    (h : NonSingular p (thetaOf p j)) :
    ∃ s ∈ inverseIntern5 p (forward p j) j6, J5TurnEq s j ∧ s.j6 = j6 := by
  obtain ⟨s, h1, h2, h3, -⟩ := inverse5_origin p hs j j6 h
  exact ⟨s, h1, J5TurnEq_of_theta p hs h2, h3⟩

/-- Exact form: if J1..J5 of `j` lie in `(−π, π)`, the vector `(j1, …, j5, j6)` ITSELF is among the
answers.  (The bound on the offsets is that of `C02b.inverse_roundtrip`.) -/
theorem inverse5_roundtrip (p : Params ℝ) (hs : SignsOk p) (ho : Nearest.absLe p.offsets 100000)
    (j : J6 ℝ) (j6 : ℝ) (hj : InsidePi5 j) (h : NonSingular p (thetaOf p j)) :
    ({ j with j6 := j6 } : J6 ℝ) ∈ inverseIntern5 p (forward p j) j6 := by
  obtain ⟨s, hs1, ⟨e1, e2, e3, e4, e5⟩, h6⟩ := inverse5_origin_joint p hs j j6 h
  obtain ⟨b1, b2, b3, b4, b5, -⟩ := Nearest.inverseIntern5_absLe Nearest.raw_add_offset_le p _ j6 s (signsOk_absLe hs) ho hs1
  obtain ⟨j1, j2, j3, j4, j5⟩ := hj
  have : s = { j with j6 := j6 } := J6.ext' (eq_of_turnEq_of_abs e1 b1 j1)
    (eq_of_turnEq_of_abs e2 b2 j2) (eq_of_turnEq_of_abs e3 b3 j3) (eq_of_turnEq_of_abs e4 b4 j4)
    (eq_of_turnEq_of_abs e5 b5 j5) h6
  exact this ▸ hs1

theorem inverse5dof_eq_intern (k : Opw ℝ) (hc : k.cons = none) (pose : Iso ℝ) (j6 : ℝ) :
    k.inverse5dof pose j6 = inverseIntern5 k.p pose j6 := by
  unfold Opw.inverse5dof Opw.filterCompliant
  rw [hc]

/-- `inverse_5dof` without constraints -/
theorem inverse5dof_origin (k : Opw ℝ) (hs : SignsOk k.p) (hc : k.cons = none) (j : J6 ℝ) (j6 : ℝ)
    (h : NonSingular k.p (thetaOf k.p j)) :
    ∃ s ∈ k.inverse5dof (forward k.p j) j6, J5TurnEq (thetaOf k.p s) (thetaOf k.p j) ∧ s.j6 = j6 ∧
      (forward k.p s).t = (forward k.p j).t := by
  rw [inverse5dof_eq_intern k hc]
  exact inverse5_origin k.p hs j j6 h

/-- `inverse_5dof` without constraints, exact form -/
theorem inverse5dof_roundtrip (k : Opw ℝ) (hs : SignsOk k.p) (hc : k.cons = none)
    (ho : Nearest.absLe k.p.offsets 100000) (j : J6 ℝ) (j6 : ℝ) (hj : InsidePi5 j)
    (h : NonSingular k.p (thetaOf k.p j)) :
    ({ j with j6 := j6 } : J6 ℝ) ∈ k.inverse5dof (forward k.p j) j6 := by
  rw [inverse5dof_eq_intern k hc]
  exact inverse5_roundtrip k.p hs ho j j6 hj h

/-- with constraints: the originating vector comes back if it satisfies them (any constraints,
any sorting weight; the limits check is applied to the vector with the requested J6) -/
theorem inverse5dof_roundtrip_constrained (k : Opw ℝ) (hs : SignsOk k.p)
    (ho : Nearest.absLe k.p.offsets 100000) (j : J6 ℝ) (j6 : ℝ) (hj : InsidePi5 j)
    (h : NonSingular k.p (thetaOf k.p j)) (hcomp : k.compliant { j with j6 := j6 } = true) :
    ({ j with j6 := j6 } : J6 ℝ) ∈ k.inverse5dof (forward k.p j) j6 := by
  exact mem_inverse5dof.mpr ⟨inverse5_roundtrip k.p hs ho j j6 hj h, hcomp⟩

/-- the general entry point `inverse` of a robot declared 5-DOF (it asks for J6 = 0) -/
theorem inverse_dof5_roundtrip (k : Opw ℝ) (hs : SignsOk k.p) (hd : k.p.dof = 5) (hc : k.cons = none)
    (ho : Nearest.absLe k.p.offsets 100000) (j : J6 ℝ) (hj : InsidePi5 j)
    (h : NonSingular k.p (thetaOf k.p j)) :
    ({ j with j6 := 0 } : J6 ℝ) ∈ k.inverse (forward k.p j) := by
  rw [(C06.dof5_dispatch hd (forward k.p j) j).1, lit0]
  exact inverse5dof_roundtrip k hs hc ho j 0 hj h

/-- `inverse_continuing_5dof` without constraints: one answer agrees with `j` on joints 1..5
modulo whole turns (`normalize_near` moves each joint by whole turns towards `prev`). -/
theorem inverseContinuing5dof_origin (k : Opw ℝ) (hs : SignsOk k.p) (hc : k.cons = none) (j prev : J6 ℝ)
    (h : NonSingular k.p (thetaOf k.p j)) :
    ∃ s ∈ k.inverseContinuing5dof (forward k.p j) prev, J5TurnEq s j := by
  obtain ⟨s0, h0, he, -⟩ := inverse5_origin_joint k.p hs j prev.j6 h
  exact ⟨s0.normalizeNear prev,
    mem_inverseContinuing5dof.mpr
      ⟨⟨s0, h0, by rw [Nearest.reference_real]⟩, Nearest.compliant_of_none _ _ hc⟩,
    (J5TurnEq_normalizeNear s0 prev).trans he⟩

/-- exact form: J1..J5 of `j` in `(−π, π)` and within `π` of the previous joints — then
`(j1, …, j5, prev6)` itself is returned (J6 is `normalize_near(prev6, prev6) = prev6`). -/
theorem inverseContinuing5dof_roundtrip (k : Opw ℝ) (hs : SignsOk k.p) (hc : k.cons = none)
    (ho : Nearest.absLe k.p.offsets 100000) (j prev : J6 ℝ) (hj : InsidePi5 j)
    (hclose : |j.j1 - prev.j1| ≤ Real.pi ∧ |j.j2 - prev.j2| ≤ Real.pi ∧ |j.j3 - prev.j3| ≤ Real.pi ∧
      |j.j4 - prev.j4| ≤ Real.pi ∧ |j.j5 - prev.j5| ≤ Real.pi)
    (h : NonSingular k.p (thetaOf k.p j)) :
    ({ j with j6 := prev.j6 } : J6 ℝ) ∈ k.inverseContinuing5dof (forward k.p j) prev := by
  have h0 := inverse5_roundtrip k.p hs ho j prev.j6 hj h
  obtain ⟨i1, i2, i3, i4, i5⟩ := hj
  obtain ⟨w1, w2, w3, w4, w5⟩ := hclose
  have e : ({ j with j6 := prev.j6 } : J6 ℝ).normalizeNear prev = { j with j6 := prev.j6 } := by
    simp only [J6.normalizeNear, J6.zipWith, normalizeNear_of_close _ _ w1 i1.ne,
      normalizeNear_of_close _ _ w2 i2.ne, normalizeNear_of_close _ _ w3 i3.ne,
      normalizeNear_of_close _ _ w4 i4.ne, normalizeNear_of_close _ _ w5 i5.ne,
      Nearest.normalizeNear_self]
  exact mem_inverseContinuing5dof.mpr
    ⟨⟨_, h0, by rw [Nearest.reference_real, e]⟩, Nearest.compliant_of_none _ _ hc⟩

/-- non-vacuity: the robot `pEx` of C02, declared 5-DOF -/
noncomputable def pEx5 : Params ℝ := { pEx with dof := 5 }

theorem nonSingular_ex5 : NonSingular pEx5 (thetaOf pEx5 C02b.jEx) :=
  ⟨C02b.nonSingular_ex.c2_pos, C02b.nonSingular_ex.kappa_pos, C02b.nonSingular_ex.shoulder,
    C02b.nonSingular_ex.elbow, C02b.nonSingular_ex.wrist⟩

theorem insidePi5_jEx : InsidePi5 C02b.jEx := by
  obtain ⟨h1, h2, h3, h4, h5, -⟩ := C02b.insidePi_jEx
  exact ⟨h1, h2, h3, h4, h5⟩

/-- the hypotheses are jointly satisfiable: asked for the pose of `jEx` and J6 = 0.7, the 5-DOF
solver returns `jEx` with J6 replaced by 0.7 -/
example : ({ C02b.jEx with j6 := 0.7 } : J6 ℝ) ∈
    (⟨pEx5, none⟩ : Opw ℝ).inverse5dof (forward pEx5 C02b.jEx) 0.7 :=
  inverse5dof_roundtrip ⟨pEx5, none⟩ C02b.signsOk_pEx rfl C02b.offsets_pEx C02b.jEx 0.7 insidePi5_jEx
    nonSingular_ex5

example : ({ C02b.jEx with j6 := 0 } : J6 ℝ) ∈ (⟨pEx5, none⟩ : Opw ℝ).inverse (forward pEx5 C02b.jEx) :=
  inverse_dof5_roundtrip ⟨pEx5, none⟩ C02b.signsOk_pEx rfl rfl C02b.offsets_pEx C02b.jEx insidePi5_jEx
    nonSingular_ex5

end Opw.C06b
