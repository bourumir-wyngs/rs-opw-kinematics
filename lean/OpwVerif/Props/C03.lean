/-
  C03 — Forward kinematics equals the OPW link chain, for the tool point and every link.
  Real arithmetic, except `chain_prefix` and `chain_length`: these hold for any number type, so of
  the Float reading itself.
-/
import OpwVerif.Lemmas.Chain
namespace Opw.C03

/-- The closed form used by `forward` (rotation matrix `r_0c * r_ce` and translation) equals the
product of the six elementary joint rotations Rz·Ry·Ry·Rz·Ry·Rz and the accumulated OPW link
offsets `(0,0,c1), (a1,b,0), (0,0,c2), (a2,0,0), (0,0,c3), (0,0,c4)`, for every parameter set and
every joint vector (no range restriction). -/
theorem closed_form_eq_reference_chain (p : Params ℝ) (q : J6 ℝ) :
    forwardTheta p q = (rot6 q, org6 p q) := by
  ext
  · exact forwardTheta_rot p q
  · exact forwardTheta_tr p q

/-- Link pose `i` depends only on joints `1..i`. -/
theorem chain_prefix {R : Type} [OpwNum R] (p : Params R) (q q' : J6 R) :
    (q.j1 = q'.j1 → (chainTheta p q)[0]? = (chainTheta p q')[0]?) ∧
    (q.j1 = q'.j1 → q.j2 = q'.j2 → (chainTheta p q)[1]? = (chainTheta p q')[1]?) ∧
    (q.j1 = q'.j1 → q.j2 = q'.j2 → q.j3 = q'.j3 → (chainTheta p q)[2]? = (chainTheta p q')[2]?) ∧
    (q.j1 = q'.j1 → q.j2 = q'.j2 → q.j3 = q'.j3 → q.j4 = q'.j4 → (chainTheta p q)[3]? = (chainTheta p q')[3]?) ∧
    (q.j1 = q'.j1 → q.j2 = q'.j2 → q.j3 = q'.j3 → q.j4 = q'.j4 → q.j5 = q'.j5 →
      (chainTheta p q)[4]? = (chainTheta p q')[4]?) := by
  refine ⟨fun h1 => ?_, fun h1 h2 => ?_, fun h1 h2 h3 => ?_, fun h1 h2 h3 h4 => ?_,
    fun h1 h2 h3 h4 h5 => ?_⟩ <;>
  simp only [chainTheta, List.getElem?_cons_succ, List.getElem?_cons_zero, *]

theorem chain_length {R : Type} [OpwNum R] (p : Params R) (j : J6 R) : (chain p j).length = 6 := by
  simp [chain, chainTheta]

/-- non-vacuity: a concrete robot with `b ≠ 0`, `a2 ≠ 0` and a joint vector far outside `[-π, π]` -/
example : ∃ (p : Params ℝ) (q : J6 ℝ), p.b ≠ 0 ∧ p.a2 ≠ 0 ∧ q.j1 = 100 ∧ forwardTheta p q = (rot6 q, org6 p q) :=
  ⟨⟨1, 2, 3, 4, 5, 6, 7, ⟨0, 0, 0, 0, 0, 0⟩, ⟨1, 1, 1, 1, 1, 1⟩, 6⟩, ⟨100, 1, 2, 3, 4, 5⟩,
    by norm_num, by norm_num, rfl, closed_form_eq_reference_chain _ _⟩

/-- `forward` equals the last of the six link poses of `forward_with_joint_poses`: same
translation, same rotation (as rotation matrices; quaternions are determined up to sign), and both
are unit quaternions. Holds for every parameter set, sign/offset convention and joint vector. -/
theorem forward_eq_last_link (p : Params ℝ) (j : J6 ℝ) :
    ∃ l6, (chain p j)[5]? = some l6 ∧ (forward p j).t = l6.t ∧ (forward p j).q.toMat = l6.q.toMat ∧
      (forward p j).q.normSq = 1 ∧ l6.q.normSq = 1 := by
  unfold chain forward
  exact forwardTheta_last_link p (thetaOf p j)

/-- every link pose of `forward_with_joint_poses` is the product of the elementary joint transforms
up to that link: its rotation matrix is `Rz(θ1)·Ry(θ2)·…`, its origin the accumulated offsets, its
quaternion a unit one (so a proper rotation, `link_rotation_proper`). -/
theorem links_are_reference_chain (p : Params ℝ) (j : J6 ℝ) :
    ∃ l1 l2 l3 l4 l5 l6, chain p j = [l1, l2, l3, l4, l5, l6] ∧
      LinkIs l1 (rot1 (thetaOf p j)) (org1 p (thetaOf p j)) ∧ LinkIs l2 (rot2 (thetaOf p j)) (org2 p (thetaOf p j)) ∧
      LinkIs l3 (rot3 (thetaOf p j)) (org3 p (thetaOf p j)) ∧ LinkIs l4 (rot4 (thetaOf p j)) (org4 p (thetaOf p j)) ∧
      LinkIs l5 (rot5 (thetaOf p j)) (org5 p (thetaOf p j)) ∧ LinkIs l6 (rot6 (thetaOf p j)) (org6 p (thetaOf p j)) :=
  chainTheta_links p (thetaOf p j)

theorem link_rotation_proper {l : Iso ℝ} {r : M3 ℝ} {o : V3 ℝ} (h : LinkIs l r o) : IsRot l.q.toMat :=
  IsRot_toMat l.q h.unit

/-- consecutive link origins are separated by exactly the link lengths of the parameter set -/
theorem link_offsets (p : Params ℝ) (q : J6 ℝ) :
    org1 p q = ⟨0, 0, p.c1⟩ ∧
    ((org2 p q).sub (org1 p q)).normSq = p.a1 * p.a1 + p.b * p.b ∧
    ((org3 p q).sub (org2 p q)).normSq = p.c2 * p.c2 ∧
    ((org4 p q).sub (org3 p q)).normSq = p.a2 * p.a2 ∧
    ((org5 p q).sub (org4 p q)).normSq = p.c3 * p.c3 ∧
    ((org6 p q).sub (org5 p q)).normSq = p.c4 * p.c4 := by
  have sub_add : ∀ (a b : V3 ℝ), (a.add b).sub a = b := by
    intro a b; simp only [V3.add, V3.sub, add_sub_cancel_left]
  refine ⟨rfl, ?_, ?_, ?_, ?_, ?_⟩
  · rw [org2, sub_add, (IsRot_rot1 q).normSq_mulVec, V3.normSq_eq, mul_zero, add_zero]
  · rw [org3, sub_add, (IsRot_rot2 q).normSq_mulVec, V3.normSq_eq, mul_zero, zero_add, zero_add]
  · rw [org4, sub_add, (IsRot_rot3 q).normSq_mulVec, V3.normSq_eq, mul_zero, add_zero, add_zero]
  · rw [org5, sub_add, (IsRot_rot4 q).normSq_mulVec, V3.normSq_eq, mul_zero, zero_add, zero_add]
  · rw [org6, sub_add, (IsRot_rot5 q).normSq_mulVec, V3.normSq_eq, mul_zero, zero_add, zero_add]

end Opw.C03
