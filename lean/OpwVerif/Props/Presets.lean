/-
  The hard-coded robots of `parameters_robots.rs` (translated from the CURRENT source text into
  `Generated/Presets.lean` by `tools/rs2lean_presets.py` on every run) meet the hypotheses of the
  completeness theorem of C02 (`Props/C02b.lean`): sign corrections ±1, `c2 > 0`, `κ > 0`.
  Real arithmetic.  The namespace is `Opw.PresetsOk` (`Opw.Presets` holds the generated parameter
  sets).
-/
import OpwVerif.Generated.Presets
import OpwVerif.Props.C02b
namespace Opw.PresetsOk
open Opw Opw.Wrist Opw.C02 Opw.IkComplete

/-- what the theorems of C02 ask of a parameter set -/
def ParamsOk (p : Params ℝ) : Prop := SignsOk p ∧ 0 < p.c2 ∧ 0 < kappa p

macro "preset_ok" n:ident : tactic =>
  `(tactic| (refine ⟨?_, ?_, kappa_pos_of_c3 ?_⟩
             · simp only [SignsOk, $n:ident, ofNat_real]; norm_num
             · simp only [$n:ident, ofNat_real]; norm_num
             · simp only [$n:ident, ofNat_real]; norm_num))

theorem igus_rebel_ok : ParamsOk Presets.igus_rebel := by preset_ok Presets.igus_rebel
theorem irb2400_10_ok : ParamsOk Presets.irb2400_10 := by preset_ok Presets.irb2400_10
theorem staubli_tx2_140_ok : ParamsOk Presets.staubli_tx2_140 := by preset_ok Presets.staubli_tx2_140
theorem staubli_tx2_160_ok : ParamsOk Presets.staubli_tx2_160 := by preset_ok Presets.staubli_tx2_160
theorem staubli_tx2_160l_ok : ParamsOk Presets.staubli_tx2_160l := by preset_ok Presets.staubli_tx2_160l
theorem fanuc_r2000ib_200r_ok : ParamsOk Presets.fanuc_r2000ib_200r := by preset_ok Presets.fanuc_r2000ib_200r
theorem kuka_kr6_r700_sixx_ok : ParamsOk Presets.kuka_kr6_r700_sixx := by preset_ok Presets.kuka_kr6_r700_sixx
theorem staubli_tx40_ok : ParamsOk Presets.staubli_tx40 := by preset_ok Presets.staubli_tx40
theorem staubli_rx160_ok : ParamsOk Presets.staubli_rx160 := by preset_ok Presets.staubli_rx160
theorem irb2600_12_165_ok : ParamsOk Presets.irb2600_12_165 := by preset_ok Presets.irb2600_12_165
theorem irb4600_60_205_ok : ParamsOk Presets.irb4600_60_205 := by preset_ok Presets.irb4600_60_205

/-- one case per robot of the generated table: a robot added to `parameters_robots.rs` breaks this proof until
its own `…_ok` is added, which is the tie -/
theorem all_ok : ∀ np ∈ (Presets.all : List (String × Params ℝ)), ParamsOk np.2 := by
  intro np h
  simp only [Presets.all, List.mem_cons, List.not_mem_nil, or_false] at h
  rcases h with rfl | rfl | rfl | rfl | rfl | rfl | rfl | rfl | rfl | rfl | rfl
  · exact igus_rebel_ok
  · exact irb2400_10_ok
  · exact staubli_tx2_140_ok
  · exact staubli_tx2_160_ok
  · exact staubli_tx2_160l_ok
  · exact fanuc_r2000ib_200r_ok
  · exact kuka_kr6_r700_sixx_ok
  · exact staubli_tx40_ok
  · exact staubli_rx160_ok
  · exact irb2600_12_165_ok
  · exact irb4600_60_205_ok

/-- C02 completeness for the bundled robots: for every hard-coded robot and every joint vector away
from the shoulder, elbow and wrist singularities, the answer of `inverse_intern` for the pose of that
vector contains the vector modulo whole turns of every joint. -/
theorem presets_ik_complete (np : String × Params ℝ) (hnp : np ∈ (Presets.all : List (String × Params ℝ)))
    (j : J6 ℝ) (hsh : cx1 np.2 (thetaOf np.2 j) ≠ 0) (hel : Real.sin (phi np.2 (thetaOf np.2 j)) ≠ 0)
    (hwr : Real.sin (thetaOf np.2 j).j5 ≠ 0) :
    ∃ s ∈ inverseIntern np.2 (forward np.2 j), J6TurnEq s j := by
  obtain ⟨hs, hc2, hk⟩ := all_ok np hnp
  exact ik_complete_intern_joint np.2 hs j ⟨hc2, hk, hsh, hel, hwr⟩

end Opw.PresetsOk
