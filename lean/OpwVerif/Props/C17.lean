/-
  C17 — Frames (`frame.rs`): for any three non-collinear points and their images under a rigid
  motion, `Frame::frame` constructs a proper rigid transform that maps each point to its image (and
  hence equals that motion); collinear sources or targets and point triples whose mutual distances
  differ by more than 5 mm are rejected with the corresponding error.  `forward_transformed` returns
  the frame-moved tool pose and the answers of `inverse_continuing` for that pose.
  Kinds: [R] real arithmetic (the model text evaluated at `ℝ`), [G] generic (any number type, holds
  of the Float reading itself).
-/
import OpwVerif.Lemmas.MiscReal
import OpwVerif.Props.C01
import OpwVerif.Props.C04
namespace Opw.C17
open Opw.MiscReal

/-- the rotation `Frame::frame` computes on its success branch:
`from_rotation_matrix(B(w1, w2) · B(v1, v2)ᵀ)` with `v = p₂ − p₁, p₃ − p₁`, `w = q₂ − q₁, q₃ − q₁` -/
def frameRot {R : Type} [OpwNum R] (p1 p2 p3 q1 q2 q3 : V3 R) : Quat R :=
  Quat.ofMat ((basisOf (q2.sub q1) (q3.sub q1)).mul (basisOf (p2.sub p1) (p3.sub p1)).transpose)

/-- the isometry `Frame::frame` returns on its success branch: translation `q₁ − rot · p₁` -/
def frameIso {R : Type} [OpwNum R] (p1 p2 p3 q1 q2 q3 : V3 R) : Iso R :=
  ⟨q1.sub ((frameRot p1 p2 p3 q1 q2 q3).rotate p1), frameRot p1 p2 p3 q1 q2 q3⟩

/-- three points are collinear (or coincide): `(b − a) × (c − a) = 0` -/
def Collinear3 (a b c : V3 ℝ) : Prop := V3.cross (b.sub a) (c.sub a) = V3.zero

/-- [G] `Frame::frame`: first the distance check (`NotIsometry`), then source collinearity
(`ColinearSource`), then target collinearity (`ColinearTarget`), else the isometry `frameIso`. -/
theorem frame_rejects {R : Type} [OpwNum R] (p1 p2 p3 q1 q2 q3 : V3 R) :
    (distancesMatch p1 p2 p3 q1 q2 q3 nonIsoTol = false →
      frameOf p1 p2 p3 q1 q2 q3 = .error .notIsometry) ∧
    (distancesMatch p1 p2 p3 q1 q2 q3 nonIsoTol = true →
      feq (V3.cross (p2.sub p1) (p3.sub p1)).norm 0 = true →
      frameOf p1 p2 p3 q1 q2 q3 = .error .colinearSource) ∧
    (distancesMatch p1 p2 p3 q1 q2 q3 nonIsoTol = true →
      feq (V3.cross (p2.sub p1) (p3.sub p1)).norm 0 = false →
      feq (V3.cross (q2.sub q1) (q3.sub q1)).norm 0 = true →
      frameOf p1 p2 p3 q1 q2 q3 = .error .colinearTarget) ∧
    (distancesMatch p1 p2 p3 q1 q2 q3 nonIsoTol = true →
      feq (V3.cross (p2.sub p1) (p3.sub p1)).norm 0 = false →
      feq (V3.cross (q2.sub q1) (q3.sub q1)).norm 0 = false →
      frameOf p1 p2 p3 q1 q2 q3 = .ok (frameIso p1 p2 p3 q1 q2 q3)) := by
  refine ⟨fun h => ?_, fun h hs => ?_, fun h hs ht => ?_, fun h hs ht => ?_⟩
  -- each hypothesis decides one `if` of `frameOf`
  · simp only [frameOf, h, Bool.not_false, ↓reduceIte]
  · simp only [frameOf, h, Bool.not_true, Bool.false_eq_true, ↓reduceIte, hs]
  · simp only [frameOf, h, Bool.not_true, Bool.false_eq_true, ↓reduceIte, hs, ht]
  · simp only [frameOf, h, Bool.not_true, Bool.false_eq_true, ↓reduceIte, hs, ht, frameIso, frameRot]

/-- [G] `Frame::translation`: identity rotation, translation `q − p` -/
theorem frameTranslation_def {R : Type} [OpwNum R] (p q : V3 R) :
    frameTranslation p q = ⟨q.sub p, Quat.one⟩ := rfl

/-- [R] the tolerance is the `f64` nearest to `0.005` (5 mm) -/
theorem nonIsoTol_real : (nonIsoTol : ℝ) < 5.0000001e-3 ∧ 4.9999999e-3 < (nonIsoTol : ℝ) := by
  rw [nonIsoTol_eq]; constructor <;> norm_num

theorem distancesMatch_iff (a1 a2 a3 b1 b2 b3 : V3 ℝ) (tol : ℝ) :
    distancesMatch a1 a2 a3 b1 b2 b3 tol = true ↔
      |(a1.sub a2).norm - (b1.sub b2).norm| < tol ∧ |(a1.sub a3).norm - (b1.sub b3).norm| < tol ∧
      |(a2.sub a3).norm - (b2.sub b3).norm| < tol := by
  unfold distancesMatch
  simp only [Bool.and_eq_true, decide_eq_true_eq, and_assoc]
  exact Iff.rfl

theorem feq_norm_zero_iff (v : V3 ℝ) :
    feq v.norm (@OfNat.ofNat ℝ 0 instOfNatOpw) = true ↔ v = V3.zero := by
  rw [lit0, feq_real, decide_eq_true_eq, V3.norm_eq_zero_iff, V3.normSq_eq_zero_iff]

theorem not_collinear3_iff (a b c : V3 ℝ) :
    ¬ Collinear3 a b c ↔ (V3.cross (b.sub a) (c.sub a)).norm ≠ 0 := by
  unfold Collinear3
  rw [Ne, V3.norm_eq_zero_iff, V3.normSq_eq_zero_iff]

/-- [R] `Collinear3` holds when `c − a` is a multiple of `b − a` -/
theorem collinear3_of_scale {a b c : V3 ℝ} {s : ℝ} (h : c.sub a = (b.sub a).scale s) :
    Collinear3 a b c := by
  unfold Collinear3
  rw [h]
  simp only [V3.cross, V3.scale, V3.zero, lit0]
  apply V3.ext' <;> ring

theorem collinear3_of_eq {a c : V3 ℝ} : Collinear3 a a c := by
  unfold Collinear3
  simp only [V3.cross, V3.sub, V3.zero, lit0]
  apply V3.ext' <;> ring

/-- [R] a triple with one mutual distance off by at least the tolerance is rejected as `NotIsometry` … -/
theorem rejects_non_isometry (p1 p2 p3 q1 q2 q3 : V3 ℝ)
    (h : (nonIsoTol : ℝ) ≤ |(p1.sub p2).norm - (q1.sub q2).norm| ∨
         (nonIsoTol : ℝ) ≤ |(p1.sub p3).norm - (q1.sub q3).norm| ∨
         (nonIsoTol : ℝ) ≤ |(p2.sub p3).norm - (q2.sub q3).norm|) :
    frameOf p1 p2 p3 q1 q2 q3 = .error .notIsometry := by
  apply (frame_rejects p1 p2 p3 q1 q2 q3).1
  rw [← Bool.not_eq_true, distancesMatch_iff]
  rintro ⟨h1, h2, h3⟩
  rcases h with h | h | h
  exacts [h.not_gt h1, h.not_gt h2, h.not_gt h3]

/-- [R] … in particular when a distance differs by more than 5 mm (`5.0000001e-3` covers the rounding
of the constant) -/
theorem rejects_more_than_5mm (p1 p2 p3 q1 q2 q3 : V3 ℝ)
    (h : 5.0000001e-3 ≤ |(p1.sub p2).norm - (q1.sub q2).norm| ∨
         5.0000001e-3 ≤ |(p1.sub p3).norm - (q1.sub q3).norm| ∨
         5.0000001e-3 ≤ |(p2.sub p3).norm - (q2.sub q3).norm|) :
    frameOf p1 p2 p3 q1 q2 q3 = .error .notIsometry := by
  have ht := nonIsoTol_real.1.le
  exact rejects_non_isometry _ _ _ _ _ _ (h.imp ht.trans (Or.imp ht.trans ht.trans))

/-- [R] collinear source points (distances matching) are rejected as `ColinearSource` -/
theorem rejects_collinear_source (p1 p2 p3 q1 q2 q3 : V3 ℝ)
    (hd : distancesMatch p1 p2 p3 q1 q2 q3 nonIsoTol = true) (hs : Collinear3 p1 p2 p3) :
    frameOf p1 p2 p3 q1 q2 q3 = .error .colinearSource :=
  (frame_rejects p1 p2 p3 q1 q2 q3).2.1 hd ((feq_norm_zero_iff _).2 hs)

/-- [R] collinear target points (distances matching, source not collinear) are rejected as
`ColinearTarget` -/
theorem rejects_collinear_target (p1 p2 p3 q1 q2 q3 : V3 ℝ)
    (hd : distancesMatch p1 p2 p3 q1 q2 q3 nonIsoTol = true) (hs : ¬ Collinear3 p1 p2 p3)
    (ht : Collinear3 q1 q2 q3) :
    frameOf p1 p2 p3 q1 q2 q3 = .error .colinearTarget := by
  apply (frame_rejects p1 p2 p3 q1 q2 q3).2.2.1 hd _ ((feq_norm_zero_iff _).2 ht)
  rw [← Bool.not_eq_true, feq_norm_zero_iff]; exact hs

/-- [R] otherwise the frame is constructed -/
theorem frame_ok (p1 p2 p3 q1 q2 q3 : V3 ℝ)
    (hd : distancesMatch p1 p2 p3 q1 q2 q3 nonIsoTol = true) (hs : ¬ Collinear3 p1 p2 p3)
    (ht : ¬ Collinear3 q1 q2 q3) :
    frameOf p1 p2 p3 q1 q2 q3 = .ok (frameIso p1 p2 p3 q1 q2 q3) := by
  apply (frame_rejects p1 p2 p3 q1 q2 q3).2.2.2 hd
  · rw [← Bool.not_eq_true, feq_norm_zero_iff]; exact hs
  · rw [← Bool.not_eq_true, feq_norm_zero_iff]; exact ht

/-- [R] and a constructed frame certifies all three checks (the four outcomes are exclusive) -/
theorem frame_ok_inv {p1 p2 p3 q1 q2 q3 : V3 ℝ} {iso : Iso ℝ}
    (h : frameOf p1 p2 p3 q1 q2 q3 = .ok iso) :
    distancesMatch p1 p2 p3 q1 q2 q3 nonIsoTol = true ∧ ¬ Collinear3 p1 p2 p3 ∧
      ¬ Collinear3 q1 q2 q3 ∧ iso = frameIso p1 p2 p3 q1 q2 q3 := by
  by_cases hd : distancesMatch p1 p2 p3 q1 q2 q3 nonIsoTol = true
  · by_cases hs : Collinear3 p1 p2 p3
    · rw [rejects_collinear_source _ _ _ _ _ _ hd hs] at h; cases h
    · by_cases ht : Collinear3 q1 q2 q3
      · rw [rejects_collinear_target _ _ _ _ _ _ hd hs ht] at h; cases h
      · rw [frame_ok _ _ _ _ _ _ hd hs ht] at h
        exact ⟨hd, hs, ht, (Except.ok.inj h).symm⟩
  · rw [Bool.not_eq_true] at hd
    rw [(frame_rejects p1 p2 p3 q1 q2 q3).1 hd] at h; cases h

/-- [R] the basis built from two non-parallel vectors is a proper rotation matrix -/
theorem basisOf_isRot {v1 v2 : V3 ℝ} (h : (V3.cross v1 v2).norm ≠ 0) : IsRot (basisOf v1 v2) :=
  MiscReal.basisOf_isRot h

/-- [R] in particular its determinant is one -/
theorem basisOf_det {v1 v2 : V3 ℝ} (h : (V3.cross v1 v2).norm ≠ 0) : (basisOf v1 v2).det = 1 :=
  (basisOf_isRot h).det

theorem frame_matrix_isRot {p1 p2 p3 q1 q2 q3 : V3 ℝ} (hs : ¬ Collinear3 p1 p2 p3)
    (ht : ¬ Collinear3 q1 q2 q3) :
    IsRot ((basisOf (q2.sub q1) (q3.sub q1)).mul (basisOf (p2.sub p1) (p3.sub p1)).transpose) :=
  (basisOf_isRot ((not_collinear3_iff _ _ _).1 ht)).mul
    (basisOf_isRot ((not_collinear3_iff _ _ _).1 hs)).transpose

/-- [R] every frame `Frame::frame` returns is a proper rigid transform, with rotation matrix
`B(w₁, w₂) · B(v₁, v₂)ᵀ` -/
theorem frame_proper {p1 p2 p3 q1 q2 q3 : V3 ℝ} {iso : Iso ℝ}
    (h : frameOf p1 p2 p3 q1 q2 q3 = .ok iso) :
    iso.q.normSq = 1 ∧ IsRot iso.q.toMat ∧ iso.q.toMat.det = 1 ∧
      iso.q.toMat = (basisOf (q2.sub q1) (q3.sub q1)).mul (basisOf (p2.sub p1) (p3.sub p1)).transpose := by
  obtain ⟨-, hs, ht, rfl⟩ := frame_ok_inv h
  have hm := frame_matrix_isRot hs ht
  have hu : (frameIso p1 p2 p3 q1 q2 q3).q.normSq = 1 := Quat.normSq_ofMat _ hm
  exact ⟨hu, IsRot_toMat _ hu, Quat.det_toMat _ hu, Quat.toMat_ofMat _ hm⟩

/-- [R] the first point is mapped to its target exactly -/
theorem frame_maps_p1 {p1 p2 p3 q1 q2 q3 : V3 ℝ} {iso : Iso ℝ}
    (h : frameOf p1 p2 p3 q1 q2 q3 = .ok iso) : iso.transformPoint p1 = q1 := by
  obtain ⟨-, -, -, rfl⟩ := frame_ok_inv h
  simp only [Iso.transformPoint, frameIso, V3.add, V3.sub]
  apply V3.ext' <;> ring

/-- [R] the direction `p₁ → p₂` is rotated onto the direction `q₁ → q₂`, and the unit normal of the
source plane onto the unit normal of the target plane (no exactness assumption on the targets) -/
theorem frame_maps_directions {p1 p2 p3 q1 q2 q3 : V3 ℝ} {iso : Iso ℝ}
    (h : frameOf p1 p2 p3 q1 q2 q3 = .ok iso) :
    iso.q.rotate (p2.sub p1).normalize = (q2.sub q1).normalize ∧
    iso.q.rotate (V3.cross (p2.sub p1) (p3.sub p1)).normalize =
      (V3.cross (q2.sub q1) (q3.sub q1)).normalize := by
  obtain ⟨hu, -, -, hm⟩ := frame_proper h
  obtain ⟨-, hs, ht, rfl⟩ := frame_ok_inv h
  have hv := basisOf_isRot ((not_collinear3_iff _ _ _).1 hs)
  rw [Quat.rotate_eq_mulVec _ hu, Quat.rotate_eq_mulVec _ hu, hm, M3.mulVec_mulVec, M3.mulVec_mulVec]
  constructor
  · rw [← basisOf_col0 (p2.sub p1) (p3.sub p1), transpose_mulVec_col0 hv, M3.mulVec_ex]; rfl
  · rw [← basisOf_col1 (p2.sub p1) (p3.sub p1), transpose_mulVec_col1 hv, M3.mulVec_ey]; rfl

/-- [R] On three non-collinear points and their images under a rigid motion `g` the frame is `g`
with its quaternion recomputed from its rotation matrix `R`: the images' differences are `R v₁`,
`R v₂`, and `B(R v₁, R v₂) · B(v₁, v₂)ᵀ = R`. -/
theorem frameOf_images (g : Iso ℝ) (hg : g.q.normSq = 1) (p1 p2 p3 : V3 ℝ)
    (hs : ¬ Collinear3 p1 p2 p3) :
    frameOf p1 p2 p3 (g.transformPoint p1) (g.transformPoint p2) (g.transformPoint p3) =
      .ok ⟨g.t, Quat.ofMat g.q.toMat⟩ := by
  have hR : IsRot g.q.toMat := IsRot_toMat _ hg
  have hs' := (not_collinear3_iff _ _ _).1 hs
  have hdiff : ∀ a b : V3 ℝ, (g.transformPoint a).sub (g.transformPoint b) = g.q.toMat.mulVec (a.sub b) := by
    intro a b
    simp only [Iso.transformPoint, Quat.rotate_eq_mulVec _ hg, M3.mulVec_sub]
    simp only [V3.add, V3.sub]
    apply V3.ext' <;> ring
  have htol : (0 : ℝ) < nonIsoTol := by rw [nonIsoTol_eq]; norm_num
  have hd : distancesMatch p1 p2 p3 (g.transformPoint p1) (g.transformPoint p2) (g.transformPoint p3)
      nonIsoTol = true := by
    simp only [distancesMatch_iff, hdiff, IsRot.norm_mulVec hR, sub_self, abs_zero]
    exact ⟨htol, htol, htol⟩
  have ht : ¬ Collinear3 (g.transformPoint p1) (g.transformPoint p2) (g.transformPoint p3) := by
    rw [not_collinear3_iff, hdiff, hdiff, IsRot.cross_mulVec hR, IsRot.norm_mulVec hR]; exact hs'
  have hq : frameRot p1 p2 p3 (g.transformPoint p1) (g.transformPoint p2) (g.transformPoint p3)
      = Quat.ofMat g.q.toMat := by
    unfold frameRot
    rw [hdiff, hdiff, basisOf_mulVec hR, M3.mul_assoc, (basisOf_isRot hs').mt, M3.mul_one]
  rw [frame_ok _ _ _ _ _ _ hd hs ht, frameIso, hq, Quat.rotate_ofMat _ hR]
  simp only [Iso.transformPoint, Quat.rotate_eq_mulVec _ hg]
  congr 2
  simp only [V3.add, V3.sub]
  apply V3.ext' <;> ring

/-- [R] For three non-collinear points and their images under a rigid motion `g` (unit quaternion)
`Frame::frame` succeeds and returns `g` up to the sign of the quaternion; the last three conjuncts
are instances of the one before. -/
theorem frame_recovers_motion (g : Iso ℝ) (hg : g.q.normSq = 1) (p1 p2 p3 : V3 ℝ)
    (hs : ¬ Collinear3 p1 p2 p3) :
    ∃ iso, frameOf p1 p2 p3 (g.transformPoint p1) (g.transformPoint p2) (g.transformPoint p3) = .ok iso ∧
      iso.q.normSq = 1 ∧ iso.q.toMat = g.q.toMat ∧ iso.t = g.t ∧ (iso.q = g.q ∨ iso.q = g.q.neg) ∧
      (∀ p, iso.transformPoint p = g.transformPoint p) ∧
      iso.transformPoint p1 = g.transformPoint p1 ∧ iso.transformPoint p2 = g.transformPoint p2 ∧
      iso.transformPoint p3 = g.transformPoint p3 := by
  have hR : IsRot g.q.toMat := IsRot_toMat _ hg
  have hall : ∀ p, (⟨g.t, Quat.ofMat g.q.toMat⟩ : Iso ℝ).transformPoint p = g.transformPoint p := by
    intro p
    simp only [Iso.transformPoint, Quat.rotate_ofMat _ hR, Quat.rotate_eq_mulVec _ hg]
  exact ⟨_, frameOf_images g hg p1 p2 p3 hs, Quat.normSq_ofMat _ hR, Quat.toMat_ofMat _ hR, rfl,
    Quat.ofMat_toMat _ hg, hall, hall p1, hall p2, hall p3⟩

/-- [R] a rigid motion (unit quaternion) is determined by the images of three non-collinear points,
so "the" motion recovered by `frame_recovers_motion` is well defined -/
theorem frame_unique (g g' : Iso ℝ) (hg : g.q.normSq = 1) (hg' : g'.q.normSq = 1) (p1 p2 p3 : V3 ℝ)
    (hs : ¬ Collinear3 p1 p2 p3)
    (h1 : g.transformPoint p1 = g'.transformPoint p1) (h2 : g.transformPoint p2 = g'.transformPoint p2)
    (h3 : g.transformPoint p3 = g'.transformPoint p3) :
    g.t = g'.t ∧ g.q.toMat = g'.q.toMat ∧ ∀ p, g.transformPoint p = g'.transformPoint p := by
  obtain ⟨iso, hok, -, hm, ht, -, hall, -⟩ := frame_recovers_motion g hg p1 p2 p3 hs
  obtain ⟨iso', hok', -, hm', ht', -, hall', -⟩ := frame_recovers_motion g' hg' p1 p2 p3 hs
  rw [h1, h2, h3, hok'] at hok
  have e : iso' = iso := Except.ok.inj hok
  subst e
  exact ⟨ht.symm.trans ht', hm.symm.trans hm', fun p => (hall p).symm.trans (hall' p)⟩

/-- [G] `Frame::forward_transformed` -/
theorem forwardTransformed_def {R : Type} [OpwNum R] (robot : Kin R) (f : Iso R) (qs previous : J6 R) :
    forwardTransformed robot f qs previous =
      (robot.inverseContinuing (f.mul (robot.forward qs)) previous, f.mul (robot.forward qs)) := rfl

/-- [G] for a bare 6-DOF solver, every returned joint vector is `normalize_near(s0, reference)` of an
`s0` that passed the forward-kinematics cross-check against the frame-moved pose (or, when the solve
for that pose came back empty, against one of the singularity-shifted poses; see C01) -/
theorem forwardTransformed_sound {R : Type} [OpwNum R] (k : Opw R) (f : Iso R) (qs previous s : J6 R)
    (hd : k.p.dof ≠ 5) (h : s ∈ (forwardTransformed (.opw k) f qs previous).1) :
    ∃ s0, s = s0.normalizeNear (k.reference previous) ∧
      (Sound k.p (forwardTransformed (.opw k) f qs previous).2 s0 ∨
        ∃ d ∈ (shifts : List (V3 R)),
          Sound k.p (shiftPose (forwardTransformed (.opw k) f qs previous).2 d) s0 ∧
          (d = ⟨0, 0, 0⟩ ∨
            inverseIntern k.p (shiftPose (forwardTransformed (.opw k) f qs previous).2 ⟨0, 0, 0⟩) = [])) :=
  C01.inverseContinuing_sound_partial hd h

/-- [R] the returned list is sorted by the solver's cost with respect to the reference vector,
which over ℝ is `previous` (no NaN sentinel).  The hypothesis on `dof` is not used:
`C04.inverseContinuing_sorted` holds on the 5-DOF path as well. -/
theorem forwardTransformed_sorted (k : Opw ℝ) (f : Iso ℝ) (qs previous : J6 ℝ) (hd : k.p.dof ≠ 5) :
    (forwardTransformed (.opw k) f qs previous).1.Pairwise
      (fun a b => k.sortCost (k.reference previous) a ≤ k.sortCost (k.reference previous) b) := by
  rw [Nearest.reference_real]
  exact C04.inverseContinuing_sorted k _ previous

theorem not_collinear3_unit : ¬ Collinear3 ⟨0, 0, 0⟩ ⟨1, 0, 0⟩ ⟨0, 1, 0⟩ := by
  unfold Collinear3
  intro h
  have := congrArg V3.z h
  simp only [V3.cross, V3.sub, V3.zero, lit0] at this
  norm_num at this

example : ¬ Collinear3 ⟨0, 0, 0⟩ ⟨1, 0, 0⟩ ⟨0, 1, 0⟩ := not_collinear3_unit

example : Collinear3 ⟨0, 0, 0⟩ ⟨1, 2, 3⟩ ⟨2, 4, 6⟩ := by
  apply collinear3_of_scale (s := 2)
  simp only [V3.sub, V3.scale]
  apply V3.ext' <;> norm_num

/-- `frame_recovers_motion` applies, e.g. to a quarter turn about z followed by a translation -/
example : ∃ iso, frameOf (⟨0, 0, 0⟩ : V3 ℝ) ⟨1, 0, 0⟩ ⟨0, 1, 0⟩
    ((⟨⟨1, 2, 3⟩, Quat.rotZ (Real.pi / 2)⟩ : Iso ℝ).transformPoint ⟨0, 0, 0⟩)
    ((⟨⟨1, 2, 3⟩, Quat.rotZ (Real.pi / 2)⟩ : Iso ℝ).transformPoint ⟨1, 0, 0⟩)
    ((⟨⟨1, 2, 3⟩, Quat.rotZ (Real.pi / 2)⟩ : Iso ℝ).transformPoint ⟨0, 1, 0⟩) = .ok iso ∧
    iso.t = ⟨1, 2, 3⟩ := by
  obtain ⟨iso, h, -, -, ht, -⟩ := frame_recovers_motion ⟨⟨1, 2, 3⟩, Quat.rotZ (Real.pi / 2)⟩
    (Quat.normSq_rotZ _) _ _ _ not_collinear3_unit
  exact ⟨iso, h, ht⟩

end Opw.C17
