/-
  C02 (closure part) — the answer set of `inverse` contains the wrist-flipped twin
  (J4+π, −J5, J6−π) of each answer, with the same forward pose.

  Read in θ-space (`θ = joint · sign − offset`, where the code forms the twin) and modulo whole
  turns (the code normalises every joint into [−π, π] afterwards).  The eight raw candidates are
  four solutions followed by their twins, and the twin of a candidate that passes the run-time
  forward cross-check passes it too.

  The model text of `Kin.lean` in exact real arithmetic.  Hypothesis `SignsOk p`: every sign
  correction is `1` or `−1` (the `i8` signs the constructors of `Parameters` set).
-/
import OpwVerif.Lemmas.Flip
namespace Opw.C02
open Opw Opw.Wrist

/-- `a ≡ b` componentwise modulo whole turns, spelled out -/
theorem J6TurnEq_iff (a b : J6 ℝ) :
    J6TurnEq a b ↔
      (∃ k : ℤ, a.j1 = b.j1 + 2 * Real.pi * k) ∧ (∃ k : ℤ, a.j2 = b.j2 + 2 * Real.pi * k) ∧
      (∃ k : ℤ, a.j3 = b.j3 + 2 * Real.pi * k) ∧ (∃ k : ℤ, a.j4 = b.j4 + 2 * Real.pi * k) ∧
      (∃ k : ℤ, a.j5 = b.j5 + 2 * Real.pi * k) ∧ (∃ k : ℤ, a.j6 = b.j6 + 2 * Real.pi * k) := Iff.rfl

/-- C02, turn invariance: the forward pose does not change under whole turns of any joint -/
theorem forwardTheta_periodic (p : Params ℝ) (θ : J6 ℝ) (k1 k2 k3 k4 k5 k6 : ℤ) :
    forwardTheta p ⟨θ.j1 + 2 * Real.pi * k1, θ.j2 + 2 * Real.pi * k2, θ.j3 + 2 * Real.pi * k3,
        θ.j4 + 2 * Real.pi * k4, θ.j5 + 2 * Real.pi * k5, θ.j6 + 2 * Real.pi * k6⟩ =
      forwardTheta p θ :=
  forwardTheta_congr p ⟨.add_turn _ _, .add_turn _ _, .add_turn _ _, .add_turn _ _, .add_turn _ _,
    .add_turn _ _⟩

/-- the twin, taken back to joint space, has the same forward pose -/
theorem forward_flip_joint_space (p : Params ℝ) (hs : SignsOk p) (j : J6 ℝ) :
    forward p (jointsOf p (flip (thetaOf p j))) = forward p j := by
  rw [forward_eq, forward_eq, thetaOf_jointsOf p hs, forwardTheta_flip']

theorem forward_finish_twin (p : Params ℝ) (hs : SignsOk p) {c c' : J6 ℝ}
    (hc : J6TurnEq c' (flip c)) :
    forward p ((jointsOf p c').map normPi) = forward p ((jointsOf p c).map normPi) := by
  have e : forwardTheta p (thetaOf p ((jointsOf p c').map normPi)) =
      forwardTheta p (thetaOf p ((jointsOf p c).map normPi)) := by
    rw [forwardTheta_congr p (thetaOf_finish_turnEq p hs c'), forwardTheta_congr p hc,
      forwardTheta_flip', forwardTheta_congr p (thetaOf_finish_turnEq p hs c)]
  rw [forward_eq, forward_eq, e]

/-- If the joint vector built from the raw candidate `c` passes the forward cross-check of
`inverse_intern`, so does the one built from any candidate congruent to its twin `flip c`, with the
same forward pose.  (Finiteness of the candidate is automatic over ℝ.) -/
theorem twin_passes_check (p : Params ℝ) (hs : SignsOk p) (pose : Iso ℝ) {c c' s : J6 ℝ}
    (hc : J6TurnEq c' (flip c)) (h : finishCandidate p pose (jointsOf p c) = some s) :
    ∃ s', finishCandidate p pose (jointsOf p c') = some s' ∧ forward p s' = forward p s ∧
      J6TurnEq (thetaOf p s') (flip (thetaOf p s)) := by
  obtain ⟨-, rfl, hsound⟩ := finishCandidate_eq_some.mp h
  refine ⟨(jointsOf p c').map normPi, ?_, forward_finish_twin p hs hc, ?_⟩
  · refine finishCandidate_eq_some.mpr ⟨allFinite_real _, rfl, ?_⟩
    unfold Sound at hsound ⊢
    rw [forward_finish_twin p hs hc]; exact hsound
  · exact ((thetaOf_finish_turnEq p hs c').trans hc).trans
      (flip_turnEq (thetaOf_finish_turnEq p hs c)).symm

theorem twin_passes_check' (p : Params ℝ) (hs : SignsOk p) (pose : Iso ℝ) {c s : J6 ℝ}
    (h : finishCandidate p pose (jointsOf p c) = some s) :
    ∃ s', finishCandidate p pose (jointsOf p (flip c)) = some s' ∧ forward p s' = forward p s :=
  let ⟨s', h1, h2, _⟩ := twin_passes_check p hs pose (.refl _) h
  ⟨s', h1, h2⟩

/-- C02, closure: for each answer `s` of `inverse_intern` the answer list holds an `s'` that is the
wrist-flipped twin of `s` in θ-space modulo whole turns, with the same forward pose. -/
theorem inverseIntern_flip_closed (p : Params ℝ) (hs : SignsOk p) (pose : Iso ℝ) (s : J6 ℝ)
    (h : s ∈ inverseIntern p pose) :
    ∃ s' ∈ inverseIntern p pose, J6TurnEq (thetaOf p s') (flip (thetaOf p s)) ∧
      forward p s' = forward p s := by
  obtain ⟨t, ht, hfc⟩ := List.mem_filterMap.mp h
  obtain ⟨t', ht', hc⟩ := candidates_twin p pose t ht
  obtain ⟨s', h1, h2, h3⟩ := twin_passes_check p hs pose hc hfc
  exact ⟨s', List.mem_filterMap.mpr ⟨t', ht', h1⟩, h3, h2⟩

/-- the public `inverse` of a 6-DOF robot without constraints is `inverse_intern` -/
theorem inverse_eq_intern (k : Opw ℝ) (hdof : k.p.dof ≠ 5) (hc : k.cons = none) (pose : Iso ℝ) :
    k.inverse pose = inverseIntern k.p pose := by
  rw [Opw.inverse_of_dof6 hdof, Opw.filterCompliant, hc]

/-- the same for the public `inverse` of a 6-DOF robot without constraints -/
theorem inverse_flip_closed (k : Opw ℝ) (hs : SignsOk k.p) (hdof : k.p.dof ≠ 5) (hc : k.cons = none)
    (pose : Iso ℝ) (s : J6 ℝ) (h : s ∈ k.inverse pose) :
    ∃ s' ∈ k.inverse pose, J6TurnEq (thetaOf k.p s') (flip (thetaOf k.p s)) ∧
      forward k.p s' = forward k.p s := by
  rw [inverse_eq_intern k hdof hc] at h ⊢
  exact inverseIntern_flip_closed k.p hs pose s h

/-- non-vacuity: a robot with mixed sign conventions and offsets -/
noncomputable def pEx : Params ℝ :=
  { a1 := 0.025, a2 := -0.035, b := 0, c1 := 0.4, c2 := 0.315, c3 := 0.365, c4 := 0.08,
    offsets := ⟨0, 0, -Real.pi / 2, 0, 0.3, Real.pi⟩, signs := ⟨1, 1, -1, -1, -1, -1⟩, dof := 6 }

example : SignsOk pEx :=
  ⟨Or.inl rfl, Or.inl rfl, Or.inr rfl, Or.inr rfl, Or.inr rfl, Or.inr rfl⟩

example : pEx.dof ≠ 5 := by decide

/-- the twin is a different joint vector (J5 changes sign in θ-space) -/
example : flip ⟨0, 0, 0, 0, 1, 0⟩ ≠ (⟨0, 0, 0, 0, 1, 0⟩ : J6 ℝ) := by
  intro h
  have := congrArg J6.j5 h
  simp only [flip] at this
  norm_num at this

end Opw.C02
