/-
  C12 — Cartesian stroke planning (`path_plan/cartesian.rs`; model `Cartesian.lean`):
  whenever stroke planning succeeds, every waypoint is free of collisions, the path leads from the
  given start configuration to the strategy point (a solution of the landing pose) flagged LAND, the
  stroke and parking poses appear in order with their flags and are inverse-kinematics solutions of
  those poses, every Cartesian waypoint solves a pose on the straight segment between the poses it
  interpolates, consecutive Cartesian waypoints pass the configured transition-cost test, and
  interpolated waypoints are present only when requested.  Whether planning succeeds does not depend
  on which successful strategy the parallel search reports.

  Everything holds for ALL `ik`, `rrt`, `collides` and pose lists; sections 5 and 7 also for ALL fallbacks
  `closeWithRrt`, while the theorems of sections 4 and 6 that describe the waypoints concern the
  transitions that need no random re-planning (`closeWithRrt := fun _ _ => none`).  Theorems about an
  arbitrary number type `R` hold of the Float reading itself; section 2 is the model text at `ℝ`.
  "Within joint limits" and "reproduced by forward kinematics" are facts about the members of
  `ik pose prev` (C08, C01); here every Cartesian waypoint is shown to BE such a member
  (`cartesianTrace_all_ik`, `stroke_plan_keyframes`), and `stroke_plan_keyframes_of` transports any
  such fact to the waypoints.
-/
import OpwVerif.Lemmas.CartLemmas
namespace Opw.C12
open Opw.Cart

section
variable {R : Type} [OpwNum R]

/-! ### 1. Densification -/

/-- the pose flags are different bits, and only LIN_INTERP contains the bit LIN_INTERP -/
theorem flags_distinct :
    flagLinInterp ≠ flagLand ∧ flagLinInterp ≠ flagTrace ∧ flagLinInterp ≠ flagPark ∧
    flagLand ≠ flagTrace ∧ flagLand ≠ flagPark ∧ flagTrace ≠ flagPark ∧
    hasFlag flagLand flagLinInterp = false ∧ hasFlag flagTrace flagLinInterp = false ∧
    hasFlag flagPark flagLinInterp = false ∧ hasFlag flagLinInterp flagLinInterp = true := by decide

/-- every pose produced by `add_intermediate_poses` carries exactly the flag LIN_INTERP -/
theorem intermediatePoses_flags (a b : Iso R) (sm sr : R) (ofNat : Nat → R) :
    ∀ p ∈ intermediatePoses a b sm sr ofNat, p.flags = flagLinInterp :=
  Cart.intermediatePoses_flags a b sm sr ofNat

/-- one pose less than `add_intermediate_poses` takes steps -/
theorem intermediatePoses_length (a b : Iso R) (sm sr : R) (ofNat : Nat → R) :
    (intermediatePoses a b sm sr ofNat).length
      = max (max (OpwNum.ceilNat ((b.t.sub a.t).norm / sm))
                 (OpwNum.ceilNat ((b.q.mul a.q.conj).angle / sr))) 1 - 1 := by
  rw [intermediatePoses_eq, List.length_map, List.length_range, stepCount]

/-- the densified list: LAND, poses flagged LIN_INTERP or TRACE, PARK; without the interpolated poses it is
land, the stroke steps in order, park -/
theorem withIntermediatePoses_shape (land : Iso R) (steps : List (Iso R)) (park : Iso R) (sm sr : R)
    (ofNat : Nat → R) :
    (∃ mid, withIntermediatePoses land steps park sm sr ofNat
        = ⟨land, flagLand⟩ :: (mid ++ [⟨park, flagPark⟩]) ∧
        ∀ p ∈ mid, p.flags = flagLinInterp ∨ p.flags = flagTrace) ∧
    (withIntermediatePoses land steps park sm sr ofNat).filter
        (fun p => !(hasFlag p.flags flagLinInterp))
      = ⟨land, flagLand⟩ :: (steps.map (fun s => ⟨s, flagTrace⟩) ++ [⟨park, flagPark⟩]) := by
  exact ⟨⟨_, withIntermediatePoses_eq land steps park sm sr ofNat,
      stroke_flags _ _ (fun a b => Cart.intermediatePoses_flags a b sm sr ofNat) steps land⟩,
    withIntermediatePoses_filter land steps park sm sr ofNat⟩

/-- the densified list, unrolled: between two consecutive key poses stand exactly their
intermediate poses -/
theorem withIntermediatePoses_nil (land park : Iso R) (sm sr : R) (ofNat : Nat → R) :
    withIntermediatePoses land [] park sm sr ofNat
      = ⟨land, flagLand⟩ :: (intermediatePoses land park sm sr ofNat ++ [⟨park, flagPark⟩]) := by
  rw [withIntermediatePoses_eq, withIntermediatePoses.stroke]

theorem withIntermediatePoses_cons (land s : Iso R) (rest : List (Iso R)) (park : Iso R) (sm sr : R)
    (ofNat : Nat → R) :
    withIntermediatePoses land (s :: rest) park sm sr ofNat
      = ⟨land, flagLand⟩ :: (intermediatePoses land s sm sr ofNat ++
          ⟨s, flagTrace⟩ :: (withIntermediatePoses s rest park sm sr ofNat).tail) := by
  rw [withIntermediatePoses_eq, withIntermediatePoses_eq, withIntermediatePoses.stroke]
  simp

end

/-! ### 2. Straight segments -/

/-- every intermediate pose lies strictly between the endpoints, on the segment (`s = i / steps`) -/
theorem intermediate_on_segment (start end_ : Iso ℝ) (sm sr : ℝ) :
    ∀ p ∈ intermediatePoses start end_ sm sr (fun n => (n : ℝ)),
      ∃ s : ℝ, 0 < s ∧ s < 1 ∧ p.pose.t = start.t.add ((end_.t.sub start.t).scale s) :=
  Cart.intermediate_on_segment start end_ sm sr

/-- `AnnotatedPose::interpolate`: the translation is `a.t·(1−p) + b.t·p` -/
theorem interpolate_translation (a b : APose ℝ) (p : ℝ) :
    (a.interpolate b p).pose.t = (a.pose.t.scale (1 - p)).add (b.pose.t.scale p) := by
  simp only [APose.interpolate, V3.lerp, V3.add, V3.scale, lit1]
  apply V3.ext' <;> ring

/-- … which for `0 ≤ p ≤ 1` is the point `a.t + p·(b.t − a.t)` of the segment -/
theorem interpolate_on_segment (a b : APose ℝ) (p : ℝ) (h0 : 0 ≤ p) (h1 : p ≤ 1) :
    ∃ s : ℝ, 0 ≤ s ∧ s ≤ 1 ∧
      (a.interpolate b p).pose.t = a.pose.t.add ((b.pose.t.sub a.pose.t).scale s) :=
  ⟨p, h0, h1, interpolate_t_seg a b p⟩

/-- every bisection pose of a segment lies on the segment (for a bisection parameter in `[0, 1]`) -/
theorem bisect_on_segment (half : ℝ) (h0 : 0 ≤ half) (h1 : half ≤ 1) (a b p : APose ℝ)
    (h : Bisect half a b p) :
    ∃ s : ℝ, 0 ≤ s ∧ s ≤ 1 ∧ p.pose.t = a.pose.t.add ((b.pose.t.sub a.pose.t).scale s) :=
  Cart.bisect_on_segment half h0 h1 a b p h

/-- without random re-planning, every appended waypoint solves a pose on the straight segment between the
two poses it interpolates -/
theorem cartesianTrace_on_segments (cfg : CartCfg ℝ) (ik : Iso ℝ → J6 ℝ → List (J6 ℝ)) (half : ℝ)
    (h0 : 0 ≤ half) (h1 : half ≤ 1)
    (poses : List (APose ℝ)) (trace0 tr : List (AJoints ℝ))
    (h : cartesianTrace cfg ik half (fun _ _ => none) poses trace0 = some tr) :
    ∃ segs : List (List (AJoints ℝ)), tr = trace0 ++ segs.flatten ∧
      List.Forall₂ (fun (ft : APose ℝ × APose ℝ) seg =>
          ∀ w ∈ seg, ∃ (p : APose ℝ) (prev : J6 ℝ) (s : ℝ), w.joints ∈ ik p.pose prev ∧ 0 ≤ s ∧ s ≤ 1 ∧
            p.pose.t = ft.1.pose.t.add ((ft.2.pose.t.sub ft.1.pose.t).scale s))
        (poses.zip poses.tail) segs := by
  obtain ⟨segs, htr, hf, _⟩ := cartesianTrace_segs cfg ik half poses trace0 tr h
  exact ⟨segs, htr, hf.imp (fun ft seg hs => segOk_on_segment ik half h0 h1 ft.1 ft.2 seg hs)⟩

section
variable {R : Type} [OpwNum R]

/-! ### 3. `step_adaptive_linear_transition` -/

/-- a successful transition: consecutive vectors pass the transition-cost test, each is an
inverse-kinematics solution, the last one of the target pose -/
theorem stepAdaptive_spec (cfg : CartCfg R) (ik : Iso R → J6 R → List (J6 R)) (half : R)
    (fuel depth : Nat) (starting : J6 R) (from_ to_ : APose R) (l : List (J6 R))
    (h : stepAdaptive cfg ik half fuel depth starting from_ to_ = some l) :
    l ≠ [] ∧
    List.IsChain (fun x y => decide (transitionCosts x y cfg.coefficients ≤ cfg.maxTransitionCost) = true)
      (starting :: l) ∧
    (∀ j ∈ l, ∃ pose prev, j ∈ ik pose prev) ∧
    ∃ last prev', l.getLast? = some last ∧ last ∈ ik to_.pose prev' := by
  obtain ⟨hc, init, last, rfl, hm⟩ := stepAdaptive_chain cfg ik half fuel depth starting from_ to_ l h
  refine ⟨List.concat_ne_nil _ _, hc.imp (fun _ _ h => h.1), ?_, last, _, List.getLast?_concat, hm⟩
  intro j hj
  obtain ⟨x, _, hx⟩ := isChain_pred _ _ hc j hj
  obtain ⟨_, p, _, hp⟩ := hx
  exact ⟨p.pose, x, hp⟩

/-- sharper: each vector is a solution CONTINUED FROM its predecessor, of the target or of a pose obtained
from the segment by repeated bisection (`Bisect`) -/
theorem stepAdaptive_spec_strong (cfg : CartCfg R) (ik : Iso R → J6 R → List (J6 R)) (half : R)
    (fuel depth : Nat) (starting : J6 R) (from_ to_ : APose R) (l : List (J6 R))
    (h : stepAdaptive cfg ik half fuel depth starting from_ to_ = some l) :
    List.IsChain (fun x y =>
        decide (transitionCosts x y cfg.coefficients ≤ cfg.maxTransitionCost) = true ∧
        ∃ p, Bisect half from_ to_ p ∧ y ∈ ik p.pose x) (starting :: l) ∧
    ∃ init last, l = init ++ [last] ∧ last ∈ ik to_.pose ((starting :: init).getLast (by simp)) :=
  stepAdaptive_chain cfg ik half fuel depth starting from_ to_ l h

/-- a bisection pose is the target itself or carries exactly the flag LIN_INTERP -/
theorem bisect_pose_flags (half : R) (a b p : APose R) (h : Bisect half a b p) :
    p = b ∨ p.flags = flagLinInterp := by
  induction h with
  | target a b => exact Or.inl rfl
  | left _ ih =>
    -- the new target is an interpolated pose, flagged LIN_INTERP
    rcases ih with rfl | h
    · exact Or.inr rfl
    · exact Or.inr h
  | right _ ih => exact ih

/-! ### 4. The Cartesian part of `probe_strategy` -/

/-- flags of the waypoints of one transition: all but the last get
`clear(clear(set(toFlags, LIN_INTERP), TRACE), PARK)`, the last gets `toFlags` -/
theorem extensionFlags_eq (toFlags n : Nat) :
    extensionFlags toFlags (n + 1)
      = List.replicate n (clearFlag (clearFlag (setFlag toFlags flagLinInterp) flagTrace) flagPark)
          ++ [toFlags] := extensionFlags_succ toFlags n

/-- the flags of a non-final waypoint contain LIN_INTERP and neither TRACE nor PARK, for EVERY `toFlags` -/
theorem interFlags_hasFlag (f : Nat) :
    hasFlag (clearFlag (clearFlag (setFlag f flagLinInterp) flagTrace) flagPark) flagLinInterp = true ∧
    hasFlag (clearFlag (clearFlag (setFlag f flagLinInterp) flagTrace) flagPark) flagTrace = false ∧
    hasFlag (clearFlag (clearFlag (setFlag f flagLinInterp) flagTrace) flagPark) flagPark = false :=
  ⟨by rw [hasFlag_clearFlag_of_ne (by decide), hasFlag_clearFlag_of_ne (by decide),
      hasFlag_setFlag_self f (by decide)],
    by rw [hasFlag_clearFlag_of_ne (by decide), hasFlag_clearFlag_self],
    hasFlag_clearFlag_self _ _⟩

/-- for the flags that occur as targets they are exactly LIN_INTERP -/
theorem interFlags_values :
    clearFlag (clearFlag (setFlag flagTrace flagLinInterp) flagTrace) flagPark = flagLinInterp ∧
    clearFlag (clearFlag (setFlag flagPark flagLinInterp) flagTrace) flagPark = flagLinInterp ∧
    clearFlag (clearFlag (setFlag flagLinInterp flagLinInterp) flagTrace) flagPark = flagLinInterp := by
  decide

/-- the trace only grows, whatever the fallback does -/
theorem cartesianTrace_prefix (cfg : CartCfg R) (ik : Iso R → J6 R → List (J6 R)) (half : R)
    (closeWithRrt : J6 R → APose R → Option (List (AJoints R)))
    (poses : List (APose R)) (trace0 tr : List (AJoints R))
    (h : cartesianTrace cfg ik half closeWithRrt poses trace0 = some tr) :
    ∃ ext, tr = trace0 ++ ext := Cart.cartesianTrace_prefix cfg ik half closeWithRrt poses trace0 tr h

/-- without random re-planning: one non-empty block of waypoints per consecutive pose pair.  The last of
a block carries the flags of the target pose and solves it; the earlier ones carry the interpolation
flags and solve bisection poses.  Along the appended part every waypoint passed the cost test against
its predecessor and is a solution continued from it. -/
theorem cartesianTrace_spec (cfg : CartCfg R) (ik : Iso R → J6 R → List (J6 R)) (half : R)
    (poses : List (APose R)) (trace0 tr : List (AJoints R))
    (h : cartesianTrace cfg ik half (fun _ _ => none) poses trace0 = some tr) :
    ∃ segs : List (List (AJoints R)), tr = trace0 ++ segs.flatten ∧
      List.Forall₂ (fun (ft : APose R × APose R) seg =>
          ∃ init last, seg = init ++ [last] ∧ last.flags = ft.2.flags ∧
            (∃ prev, last.joints ∈ ik ft.2.pose prev) ∧
            ∀ w ∈ init,
              w.flags = clearFlag (clearFlag (setFlag ft.2.flags flagLinInterp) flagTrace) flagPark ∧
              hasFlag w.flags flagLinInterp = true ∧ hasFlag w.flags flagTrace = false ∧
              hasFlag w.flags flagPark = false ∧
              ∃ p prev, Bisect half ft.1 ft.2 p ∧ w.joints ∈ ik p.pose prev)
        (poses.zip poses.tail) segs ∧
      ∀ last, trace0.getLast? = some last →
        List.IsChain (fun x y =>
            decide (transitionCosts x.joints y.joints cfg.coefficients ≤ cfg.maxTransitionCost) = true ∧
            ∃ pose, y.joints ∈ ik pose x.joints) (last :: segs.flatten) := by
  obtain ⟨segs, htr, hf, hc⟩ := cartesianTrace_segs cfg ik half poses trace0 tr h
  refine ⟨segs, htr, hf.imp ?_, hc⟩
  rintro ⟨from_, to_⟩ seg ⟨init, last, e, hl, hp, hi⟩
  refine ⟨init, last, e, hl, hp, ?_⟩
  intro w hw
  obtain ⟨hwf, hb⟩ := hi w hw
  rw [hwf]
  exact ⟨rfl, (interFlags_hasFlag _).1, (interFlags_hasFlag _).2.1, (interFlags_hasFlag _).2.2, hb⟩

/-- the poses after the first are realised, in order, by waypoints of the appended part -/
theorem cartesianTrace_keys_in_order (cfg : CartCfg R) (ik : Iso R → J6 R → List (J6 R)) (half : R)
    (poses : List (APose R)) (trace0 tr : List (AJoints R))
    (h : cartesianTrace cfg ik half (fun _ _ => none) poses trace0 = some tr) :
    ∃ ext ws, tr = trace0 ++ ext ∧ ws.Sublist ext ∧
      List.Forall₂ (fun to_ w => w.flags = to_.flags ∧ ∃ prev, w.joints ∈ ik to_.pose prev)
        poses.tail ws := by
  obtain ⟨segs, htr, hf, _⟩ := cartesianTrace_segs cfg ik half poses trace0 tr h
  -- the last waypoint of each block realises the second pose of its pair, and these are `poses.tail`
  have hf' : List.Forall₂ (fun to_ seg => ∃ init last, seg = init ++ [last] ∧ Realises ik to_ last)
      ((poses.zip poses.tail).map Prod.snd) segs :=
    List.forall₂_map_left_iff.2 (hf.imp fun _ _ h => by
      obtain ⟨init, last, e, hfl, hp, -⟩ := h
      exact ⟨init, last, e, hfl, hp⟩)
  rw [List.map_snd_zip (List.tail_sublist poses).length_le] at hf'
  obtain ⟨ws, hs, hw⟩ := forall₂_lasts _ _ _ hf'
  exact ⟨_, ws, htr, hs, hw⟩

/-- every appended waypoint is a member of some `ik pose prev` -/
theorem cartesianTrace_all_ik (cfg : CartCfg R) (ik : Iso R → J6 R → List (J6 R)) (half : R)
    (poses : List (APose R)) (trace0 tr : List (AJoints R))
    (h : cartesianTrace cfg ik half (fun _ _ => none) poses trace0 = some tr) :
    ∃ ext, tr = trace0 ++ ext ∧ ∀ w ∈ ext, ∃ pose prev, w.joints ∈ ik pose prev := by
  obtain ⟨segs, htr, hf, -⟩ := cartesianTrace_segs cfg ik half poses trace0 tr h
  refine ⟨_, htr, ?_⟩
  clear htr
  generalize poses.zip poses.tail = pairs at hf
  induction hf with
  | nil => exact fun w hw => absurd hw List.not_mem_nil
  | cons hseg _ ih =>
    intro w hw
    rw [List.flatten_cons, List.mem_append] at hw
    rcases hw with hw | hw
    · obtain ⟨p, prev, -, hm⟩ := hseg.solves w hw
      exact ⟨_, _, hm⟩
    · exact ih w hw

/-! ### 5. `probe_strategy` -/

/-- a successful probe: the stop flag was not raised, every waypoint (also the filtered ones) is collision
free, and interpolated waypoints are returned only when requested -/
theorem probeStrategy_spec (cfg : CartCfg R) (ik : Iso R → J6 R → List (J6 R)) (half : R)
    (rrt : J6 R → J6 R → Option (List (J6 R)))
    (closeWithRrt : J6 R → APose R → Option (List (AJoints R)))
    (collides : J6 R → Bool) (stopped : Bool) (from_ strategy : J6 R) (poses : List (APose R))
    (out : List (AJoints R))
    (h : probeStrategy cfg ik half rrt closeWithRrt collides stopped from_ strategy poses = some out) :
    stopped = false ∧ (∀ s ∈ out, collides s.joints = false) ∧
    ∃ onboarding trace, rrt from_ strategy = some onboarding ∧
      cartesianTrace cfg ik half closeWithRrt poses
        ((onboarding.take (onboarding.length - 1)).map (fun j => (⟨j, flagOnboarding⟩ : AJoints R))
          ++ [⟨strategy, flagLand⟩]) = some trace ∧
      (∀ s ∈ trace, collides s.joints = false) ∧
      (cfg.includeLinearInterpolation = true → out = trace) ∧
      (cfg.includeLinearInterpolation = false →
        out = trace.filter (fun s => !(hasFlag s.flags flagLinInterp)) ∧
        ∀ s ∈ out, hasFlag s.flags flagLinInterp = false) := by
  obtain ⟨onboarding, trace, hr, ht, hs, hc, rfl⟩ := probeStrategy_some _ _ _ _ _ _ _ _ _ _ _ h
  refine ⟨hs, fun s hs => ?_, onboarding, trace, hr, ht, hc, fun hi => if_pos hi, fun hi => ?_⟩
  · split at hs
    · exact hc s hs
    · exact hc s (List.mem_filter.1 hs).1
  · rw [if_neg (by rw [hi]; decide)]
    exact ⟨rfl, fun s hs => by simpa using (List.mem_filter.1 hs).2⟩

/-- the result begins with the onboarding waypoints (the RRT path but its last node) and the strategy point
flagged LAND; these are never filtered out -/
theorem probeStrategy_onboarding (cfg : CartCfg R) (ik : Iso R → J6 R → List (J6 R)) (half : R)
    (rrt : J6 R → J6 R → Option (List (J6 R)))
    (closeWithRrt : J6 R → APose R → Option (List (AJoints R)))
    (collides : J6 R → Bool) (stopped : Bool) (from_ strategy : J6 R) (poses : List (APose R))
    (out : List (AJoints R))
    (h : probeStrategy cfg ik half rrt closeWithRrt collides stopped from_ strategy poses = some out) :
    ∃ onboarding rest, rrt from_ strategy = some onboarding ∧
      out = (onboarding.take (onboarding.length - 1)).map (fun j => (⟨j, flagOnboarding⟩ : AJoints R))
              ++ ⟨strategy, flagLand⟩ :: rest := by
  obtain ⟨onboarding, ext, hr, _, ho⟩ := probeStrategy_shape _ _ _ _ _ _ _ _ _ _ _ h
  exact ⟨onboarding, _, hr, by rw [ho, List.append_assoc]; rfl⟩

/-- with the RRT contract (C13: a returned path leads from start to goal) the result starts at `from_` -/
theorem probeStrategy_starts_at_from (cfg : CartCfg R) (ik : Iso R → J6 R → List (J6 R)) (half : R)
    (rrt : J6 R → J6 R → Option (List (J6 R)))
    (closeWithRrt : J6 R → APose R → Option (List (AJoints R)))
    (collides : J6 R → Bool) (stopped : Bool) (from_ strategy : J6 R) (poses : List (APose R))
    (out : List (AJoints R))
    (hrrt : ∀ a b p, rrt a b = some p → p.head? = some a ∧ p.getLast? = some b)
    (h : probeStrategy cfg ik half rrt closeWithRrt collides stopped from_ strategy poses = some out) :
    ∃ onboarding rest, rrt from_ strategy = some onboarding ∧
      onboarding.head? = some from_ ∧ onboarding.getLast? = some strategy ∧
      out = (onboarding.take (onboarding.length - 1)).map (fun j => (⟨j, flagOnboarding⟩ : AJoints R))
              ++ ⟨strategy, flagLand⟩ :: rest ∧
      (out.head?).map (·.joints) = some from_ ∧
      (2 ≤ onboarding.length → out.head? = some ⟨from_, flagOnboarding⟩) := by
  obtain ⟨onboarding, ext, hr, _, ho⟩ := probeStrategy_shape _ _ _ _ _ _ _ _ _ _ _ h
  obtain ⟨hh, hl⟩ := hrrt _ _ _ hr
  have := onb_head onboarding from_ strategy
    (if cfg.includeLinearInterpolation then ext else ext.filter keepW) hh hl
  rw [← ho] at this
  exact ⟨onboarding, _, hr, hh, hl, by rw [ho, List.append_assoc]; rfl, this.1, this.2⟩

/-! ### 6. The probe of a densified stroke as a whole -/

/-- without random re-planning, the stroke steps (TRACE) and the parking pose (PARK) are realised IN ORDER
after the landing, whether or not the interpolated waypoints are kept -/
theorem stroke_plan_keyframes (cfg : CartCfg R) (ik : Iso R → J6 R → List (J6 R)) (half : R)
    (rrt : J6 R → J6 R → Option (List (J6 R))) (collides : J6 R → Bool) (stopped : Bool)
    (from_ strategy : J6 R) (land : Iso R) (steps : List (Iso R)) (park : Iso R) (sm sr : R)
    (ofNat : Nat → R) (out : List (AJoints R))
    (h : probeStrategy cfg ik half rrt (fun _ _ => none) collides stopped from_ strategy
          (withIntermediatePoses land steps park sm sr ofNat) = some out) :
    ∃ onboarding rest ws, rrt from_ strategy = some onboarding ∧
      out = (onboarding.take (onboarding.length - 1)).map (fun j => (⟨j, flagOnboarding⟩ : AJoints R))
              ++ [⟨strategy, flagLand⟩] ++ rest ∧
      ws.Sublist rest ∧
      List.Forall₂ (fun (kp : APose R) w => w.flags = kp.flags ∧ ∃ prev, w.joints ∈ ik kp.pose prev)
        (steps.map (fun s => ⟨s, flagTrace⟩) ++ [⟨park, flagPark⟩]) ws := by
  obtain ⟨onboarding, ext, hr, ht, ho⟩ := probeStrategy_shape _ _ _ _ _ _ _ _ _ _ _ h
  obtain ⟨ext', ws0, he, hs, hf⟩ := cartesianTrace_keys_in_order _ _ _ _ _ _ ht
  obtain rfl := List.append_cancel_left he
  -- a waypoint realising a pose has its flags, so the two "not LIN_INTERP" filters keep the same places
  have hf' : List.Forall₂ (Realises ik)
      ((withIntermediatePoses land steps park sm sr ofNat).tail.filter keepP) (ws0.filter keepW) :=
    List.rel_filter (fun a b hab => by
      show (!(hasFlag a.flags flagLinInterp)) = true ↔ (!(hasFlag b.flags flagLinInterp)) = true
      rw [hab.1]) hf
  rw [show List.filter keepP _ = _ from withIntermediatePoses_tail_filter land steps park sm sr ofNat] at hf'
  refine ⟨onboarding, _, ws0.filter keepW, hr, ho, ?_, hf'⟩
  cases cfg.includeLinearInterpolation
  · exact hs.filter _
  · exact List.filter_sublist.trans hs

/-- a fact `P pose j` that holds of every member of `ik pose prev` (inside the limits: C08; reproduced by
forward kinematics within the tolerance of the run-time check: C01) holds of the key waypoints -/
theorem stroke_plan_keyframes_of (cfg : CartCfg R) (ik : Iso R → J6 R → List (J6 R)) (half : R)
    (rrt : J6 R → J6 R → Option (List (J6 R))) (collides : J6 R → Bool) (stopped : Bool)
    (from_ strategy : J6 R) (land : Iso R) (steps : List (Iso R)) (park : Iso R) (sm sr : R)
    (ofNat : Nat → R) (out : List (AJoints R))
    (P : Iso R → J6 R → Prop) (hik : ∀ pose prev j, j ∈ ik pose prev → P pose j)
    (h : probeStrategy cfg ik half rrt (fun _ _ => none) collides stopped from_ strategy
          (withIntermediatePoses land steps park sm sr ofNat) = some out) :
    ∃ ws, ws.Sublist out ∧
      List.Forall₂ (fun (kp : APose R) w => w.flags = kp.flags ∧ P kp.pose w.joints)
        (steps.map (fun s => ⟨s, flagTrace⟩) ++ [⟨park, flagPark⟩]) ws := by
  obtain ⟨onboarding, rest, ws, _, ho, hs, hf⟩ :=
    stroke_plan_keyframes cfg ik half rrt collides stopped from_ strategy land steps park sm sr ofNat out h
  refine ⟨ws, ?_, hf.imp (fun kp w hw => ⟨hw.1, hw.2.elim fun prev hp => hik _ _ _ hp⟩)⟩
  rw [ho]
  exact hs.trans (List.sublist_append_right _ _)

/-- the instance "an exact forward kinematics `fk`" (an `ik` whose answers are only within a tolerance of
the pose is covered by `stroke_plan_keyframes_of`) -/
theorem stroke_plan_keyframes_fk (cfg : CartCfg R) (ik : Iso R → J6 R → List (J6 R)) (half : R)
    (rrt : J6 R → J6 R → Option (List (J6 R))) (collides : J6 R → Bool) (stopped : Bool)
    (from_ strategy : J6 R) (land : Iso R) (steps : List (Iso R)) (park : Iso R) (sm sr : R)
    (ofNat : Nat → R) (out : List (AJoints R))
    (fk : J6 R → Iso R) (hik : ∀ pose prev j, j ∈ ik pose prev → fk j = pose)
    (h : probeStrategy cfg ik half rrt (fun _ _ => none) collides stopped from_ strategy
          (withIntermediatePoses land steps park sm sr ofNat) = some out) :
    ∃ ws, ws.Sublist out ∧
      List.Forall₂ (fun (kp : APose R) w => w.flags = kp.flags ∧ fk w.joints = kp.pose)
        (steps.map (fun s => ⟨s, flagTrace⟩) ++ [⟨park, flagPark⟩]) ws :=
  stroke_plan_keyframes_of cfg ik half rrt collides stopped from_ strategy land steps park sm sr ofNat out
    (fun pose j => fk j = pose) hik h

/-! ### 7. `plan`: success does not depend on the scheduler -/

omit [OpwNum R] in
/-- for EVERY `choice` (which successful strategy the parallel `find_map_any` reports): planning
succeeds iff the start is collision free and some strategy succeeds on its own -/
theorem plan_schedule_independent (collidesFrom : Bool) (strategies : List (J6 R))
    (outcome : J6 R → Option (List (AJoints R))) (choice : Nat) :
    (planWith collidesFrom strategies outcome choice).isSome
      = (!collidesFrom && strategies.any (fun s => (outcome s).isSome)) := by
  unfold planWith
  cases collidesFrom
  · simp only [Bool.false_eq_true, if_false, Bool.not_false, Bool.true_and]
    cases h : strategies.filterMap outcome with
    | nil =>
      rw [List.filterMap_eq_nil_iff] at h
      exact (List.any_eq_false.2 fun s hs => by simp [h s hs]).symm
    | cons a l =>
      obtain ⟨s, hs, hso⟩ :=
        List.mem_filterMap.1 (h ▸ List.mem_cons_self : a ∈ strategies.filterMap outcome)
      simp only
      have hpos : 0 < (a :: l).length := Nat.succ_pos _
      rw [List.getElem?_eq_getElem (Nat.mod_lt _ hpos), Option.isSome_some]
      exact (List.any_eq_true.2 ⟨s, hs, by simp [hso]⟩).symm
  · simp

omit [OpwNum R] in
/-- two schedules agree on success -/
theorem plan_success_same_for_all_choices (collidesFrom : Bool) (strategies : List (J6 R))
    (outcome : J6 R → Option (List (AJoints R))) (c₁ c₂ : Nat) :
    (planWith collidesFrom strategies outcome c₁).isSome
      = (planWith collidesFrom strategies outcome c₂).isSome := by
  rw [plan_schedule_independent, plan_schedule_independent]

omit [OpwNum R] in
/-- whatever is returned is the outcome of one of the strategies (and the start did not collide) -/
theorem plan_returns_strategy_outcome (collidesFrom : Bool) (strategies : List (J6 R))
    (outcome : J6 R → Option (List (AJoints R))) (choice : Nat) (tr : List (AJoints R))
    (h : planWith collidesFrom strategies outcome choice = some tr) :
    collidesFrom = false ∧ ∃ s ∈ strategies, outcome s = some tr := by
  unfold planWith at h
  split_ifs at h with hc
  refine ⟨by simpa using hc, ?_⟩
  simp only at h
  split at h
  · cases h
  · exact List.mem_filterMap.1 (List.mem_of_getElem? h)

end

/-! ### 8. Non-vacuity -/

section Examples
variable {R : Type} [OpwNum R]

/-- the first solution within the cost is taken -/
example (cfg : CartCfg R) (ik : Iso R → J6 R → List (J6 R)) (half : R) (fuel depth : Nat)
    (starting next : J6 R) (from_ to_ : APose R) (more : List (J6 R))
    (hik : ik to_.pose starting = next :: more)
    (hc : transitionCosts starting next cfg.coefficients ≤ cfg.maxTransitionCost) :
    stepAdaptive cfg ik half (fuel + 1) depth starting from_ to_ = some [next] := by
  rw [stepAdaptive]
  simp only [hik, List.find?_cons, decide_eq_true hc]

/-- at the recursion limit a transition that is too expensive fails -/
example (cfg : CartCfg R) (ik : Iso R → J6 R → List (J6 R)) (half : R) (fuel : Nat)
    (starting : J6 R) (from_ to_ : APose R) (hik : ik to_.pose starting = []) :
    stepAdaptive cfg ik half (fuel + 1) cfg.recursionDepth starting from_ to_ = none := by
  rw [stepAdaptive]
  simp only [hik, List.find?_nil, Nat.lt_irrefl, if_false]

/-- one transition of the Cartesian part: the new waypoint carries the flags of the target -/
example (cfg : CartCfg R) (ik : Iso R → J6 R → List (J6 R)) (half : R)
    (cw : J6 R → APose R → Option (List (AJoints R)))
    (j next : J6 R) (p q : APose R) (hik : ik q.pose j = [next])
    (hc : transitionCosts j next cfg.coefficients ≤ cfg.maxTransitionCost) :
    cartesianTrace cfg ik half cw [p, q] [⟨j, flagLand⟩] = some [⟨j, flagLand⟩, ⟨next, q.flags⟩] := by
  -- the adaptive step succeeds at once, as in the first example; then one step of the trace
  have h : stepAdaptive cfg ik half (cfg.recursionDepth + 2) 0 j p q = some [next] := by
    rw [stepAdaptive]; simp only [hik, List.find?_cons, decide_eq_true hc]
  rw [cartesianTrace]
  simp only [List.getLast?_singleton, h]
  rfl

/-- a probe with a two-node onboarding path and nothing to trace -/
example (cfg : CartCfg R) (ik : Iso R → J6 R → List (J6 R)) (half : R)
    (cw : J6 R → APose R → Option (List (AJoints R))) (a b : J6 R) (p : APose R) :
    probeStrategy cfg ik half (fun x y => some [x, y]) cw (fun _ => false) false a b [p]
      = some [⟨a, flagOnboarding⟩, ⟨b, flagLand⟩] := by
  have h1 : hasFlag flagOnboarding flagLinInterp = false := by decide
  have h2 : hasFlag flagLand flagLinInterp = false := by decide
  simp [probeStrategy, cartesianTrace, h1, h2]

/-- a collision anywhere on the trace makes the probe fail -/
example (cfg : CartCfg R) (ik : Iso R → J6 R → List (J6 R)) (half : R)
    (cw : J6 R → APose R → Option (List (AJoints R))) (a b : J6 R) (p : APose R) :
    probeStrategy cfg ik half (fun x y => some [x, y]) cw (fun _ => true) false a b [p] = none := by
  rfl

/-- `plan` with one successful strategy reports its trace, for every `choice` -/
example (s : J6 R) (tr : List (AJoints R)) (c : Nat) :
    planWith false [s] (fun _ => some tr) c = some tr := by
  simp [planWith, Nat.mod_one]

/-- a colliding start makes `plan` fail -/
example (strategies : List (J6 R)) (outcome : J6 R → Option (List (AJoints R))) (c : Nat) :
    planWith true strategies outcome c = none := by
  rfl

/-- a concrete instance over `ℝ`: staying put costs nothing -/
example (j : J6 ℝ) (p q : APose ℝ) :
    stepAdaptive ⟨1, ⟨1, 1, 1, 1, 1, 1⟩, 3, false⟩ (fun _ prev => [prev]) (1 / 2) 5 0 j p q = some [j] := by
  have h : transitionCosts j j (⟨1, 1, 1, 1, 1, 1⟩ : J6 ℝ) ≤ (1 : ℝ) := by
    simp only [transitionCosts, nabs_real, sub_self, abs_zero, zero_mul, add_zero]
    exact zero_le_one
  rw [stepAdaptive]
  simp only [List.find?_cons, decide_eq_true h]

end Examples

end Opw.C12
