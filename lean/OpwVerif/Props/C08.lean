/-
  C08 — A solver with constraints returns exactly the compliant solutions.

  All theorems are generic in the number type with NO assumption on the arithmetic, so they hold of
  the IEEE `Float` reading of the model itself.

  The `Float` `example`s take the hypothesis of the theorem they instantiate as their own hypothesis:
  list membership over `Float` cannot be evaluated by the kernel, so they are instantiation tests of
  the generic statements at the `Float` objects of `Lemmas/Sound.lean`, not computations.
-/
import OpwVerif.Props.C01
import OpwVerif.Real
namespace Opw.C08
variable {R : Type} [OpwNum R]

/-- every entry point ends with the constraint filter: what it lets through is compliant -/
theorem compliant_of_mem_filterCompliant {k : Opw R} {c : Constraints R} {l : List (J6 R)} {s : J6 R}
    (hc : k.cons = some c) (h : s ∈ k.filterCompliant l) : c.compliant s = true :=
  compliant_of_cons hc (mem_filterCompliant.mp h).2

theorem inverse5dof_all_compliant {k : Opw R} {c : Constraints R} {pose : Iso R} {j6 : R} {s : J6 R}
    (hc : k.cons = some c) (h : s ∈ k.inverse5dof pose j6) : c.compliant s = true :=
  compliant_of_mem_filterCompliant hc h

theorem inverse_all_compliant {k : Opw R} {c : Constraints R} {pose : Iso R} {s : J6 R}
    (hc : k.cons = some c) (h : s ∈ k.inverse pose) : c.compliant s = true := by
  by_cases hd : k.p.dof = 5
  · exact inverse5dof_all_compliant hc (Opw.inverse_of_dof5 hd pose ▸ h)
  · exact compliant_of_cons hc ((mem_inverse_of_dof6 hd).1 h).2

theorem inverseContinuing5dof_all_compliant {k : Opw R} {c : Constraints R} {pose : Iso R}
    {prev s : J6 R} (hc : k.cons = some c) (h : s ∈ k.inverseContinuing5dof pose prev) :
    c.compliant s = true :=
  compliant_of_mem_filterCompliant hc h

/-- both the 6-DOF path with the singularity handling and the 5-DOF dispatch: the compliance filter
is applied last, after `normalize_near` and sorting -/
theorem inverseContinuing_all_compliant {k : Opw R} {c : Constraints R} {pose : Iso R}
    {prev s : J6 R} (hc : k.cons = some c) (h : s ∈ k.inverseContinuing pose prev) :
    c.compliant s = true := by
  by_cases hd : k.p.dof = 5
  · exact inverseContinuing5dof_all_compliant hc (Opw.inverseContinuing_of_dof5 hd pose prev ▸ h)
  · rw [Opw.inverseContinuing_of_dof6 hd] at h
    exact compliant_of_cons hc (mem_inverseContinuing6.1 h).2

/-- everything returned is compliant: all four entry points, both `dof` values -/
theorem all_compliant {k : Opw R} {c : Constraints R} (hc : k.cons = some c)
    (pose : Iso R) (prev : J6 R) (j6 : R) (s : J6 R) :
    (s ∈ k.inverse pose → c.compliant s = true) ∧
    (s ∈ k.inverseContinuing pose prev → c.compliant s = true) ∧
    (s ∈ k.inverse5dof pose j6 → c.compliant s = true) ∧
    (s ∈ k.inverseContinuing5dof pose prev → c.compliant s = true) :=
  ⟨inverse_all_compliant hc, inverseContinuing_all_compliant hc, inverse5dof_all_compliant hc,
    inverseContinuing5dof_all_compliant hc⟩

example {s : J6 Float} (h : s ∈ Ex.k6c.inverseContinuing Ex.pose Ex.prev) :
    Ex.cons.compliant s = true :=
  (all_compliant (k := Ex.k6c) rfl Ex.pose Ex.prev 0 s).2.1 h

example {s : J6 Float} (h : s ∈ Ex.k5c.inverse Ex.pose) : Ex.cons.compliant s = true :=
  inverse_all_compliant (k := Ex.k5c) rfl h

theorem inverse5dof_plain_exact (p : Params R) (c : Constraints R) (pose : Iso R) (j6 : R) :
    (⟨p, some c⟩ : Opw R).inverse5dof pose j6 =
      c.filter ((⟨p, none⟩ : Opw R).inverse5dof pose j6) := by
  simp [Opw.inverse5dof, Opw.filterCompliant]

/-- `inverse` with constraints is `Constraints::filter` of `inverse` without (same order), for both
values of the 5-DOF flag -/
theorem plain_exact (p : Params R) (c : Constraints R) (pose : Iso R) :
    (⟨p, some c⟩ : Opw R).inverse pose = c.filter ((⟨p, none⟩ : Opw R).inverse pose) := by
  by_cases hd : p.dof = 5
  · rw [Opw.inverse_of_dof5 (k := ⟨p, some c⟩) hd, Opw.inverse_of_dof5 (k := ⟨p, none⟩) hd]
    exact inverse5dof_plain_exact p c pose _
  · rw [Opw.inverse_of_dof6 (k := ⟨p, some c⟩) hd, Opw.inverse_of_dof6 (k := ⟨p, none⟩) hd]
    rfl

theorem plain_exact_mem (p : Params R) (c : Constraints R) (pose : Iso R) (s : J6 R) :
    s ∈ (⟨p, some c⟩ : Opw R).inverse pose ↔
      s ∈ (⟨p, none⟩ : Opw R).inverse pose ∧ c.compliant s = true := by
  rw [plain_exact, Constraints.filter, List.mem_filter]

example : Ex.k6c.inverse Ex.pose = Ex.cons.filter (Ex.k6.inverse Ex.pose) :=
  plain_exact Ex.p6 Ex.cons Ex.pose

example : Ex.k5c.inverse Ex.pose = Ex.cons.filter (Ex.k5.inverse Ex.pose) :=
  plain_exact Ex.p5 Ex.cons Ex.pose

example : Ex.k5c.inverse5dof Ex.pose 0.25 = Ex.cons.filter (Ex.k5.inverse5dof Ex.pose 0.25) :=
  inverse5dof_plain_exact Ex.p5 Ex.cons Ex.pose 0.25

omit [OpwNum R] in
/-- `constraints()` of any wrapper stack is that of the innermost `OPWKinematics` -/
theorem wrapper_constraints : ∀ (k : Kin R), k.constraints = k.core.cons := by
  intro k
  induction k with
  | opw _ => rfl
  | tool _ _ ih | base _ _ ih | frame _ _ ih | para _ _ _ _ ih | shape _ _ ih => exact ih

example : Ex.stack6s.constraints = some Ex.cons := wrapper_constraints Ex.stack6s

/-- All four entry points of a stack without `Parallelogram` return only vectors compliant with the
constraints the stack reports.  (A `Parallelogram` rewrites the coupled joint AFTER the inner filter,
so the statement is not a control-structure fact for it.) -/
theorem stack_all_compliant {k : Kin R} (hk : k.noPara) {c : Constraints R}
    (hc : k.constraints = some c) (pose : Iso R) (prev : J6 R) (j6 : R) (s : J6 R) :
    (s ∈ k.inverse pose → c.compliant s = true) ∧
    (s ∈ k.inverseContinuing pose prev → c.compliant s = true) ∧
    (s ∈ k.inverse5dof pose j6 → c.compliant s = true) ∧
    (s ∈ k.inverseContinuing5dof pose prev → c.compliant s = true) := by
  rw [wrapper_constraints] at hc
  exact ⟨fun h => inverse_all_compliant hc (Kin.noPara_inverse_mem k hk pose s h),
    fun h => inverseContinuing_all_compliant hc (Kin.noPara_inverseContinuing_mem k hk pose prev s h),
    fun h => inverse5dof_all_compliant hc (Kin.noPara_inverse5dof_mem k hk pose j6 s h),
    fun h => inverseContinuing5dof_all_compliant hc
      (Kin.noPara_inverseContinuing5dof_mem k hk pose prev s h)⟩

theorem plain_stack_all_compliant {k : Kin R} (hk : k.plain) {c : Constraints R}
    (hc : k.constraints = some c) (pose : Iso R) (prev : J6 R) (j6 : R) (s : J6 R) :
    (s ∈ k.inverse pose → c.compliant s = true) ∧
    (s ∈ k.inverseContinuing pose prev → c.compliant s = true) ∧
    (s ∈ k.inverse5dof pose j6 → c.compliant s = true) ∧
    (s ∈ k.inverseContinuing5dof pose prev → c.compliant s = true) :=
  stack_all_compliant hk.noPara hc pose prev j6 s

example {s : J6 Float} (h : s ∈ Ex.stack6s.inverseContinuing Ex.pose Ex.prev) :
    Ex.cons.compliant s = true :=
  (stack_all_compliant Ex.stack6s_noPara (wrapper_constraints Ex.stack6s) Ex.pose Ex.prev 0 s).2.1 h

/-- exactness lifted through Tool / Base / Frame -/
theorem stack_plain_exact_mem {k : Kin R} (hk : k.plain) {c : Constraints R}
    (hc : k.core.cons = some c) (pose : Iso R) (s : J6 R) :
    s ∈ k.inverse pose ↔
      s ∈ (⟨k.core.p, none⟩ : Opw R).inverse (k.localPose pose) ∧ c.compliant s = true := by
  rw [C01.stack_inverse_eq hk, ← plain_exact_mem]
  have : k.core = ⟨k.core.p, some c⟩ := by
    cases hcore : k.core with
    | mk p cons => rw [hcore] at hc; cases hc; rfl
  rw [← this]

/-- With a genuine previous position (not the `CONSTRAINT_CENTERED` NaN sentinel) and sorting weight
`BY_PREV`, `inverse_continuing_5dof` with constraints is EXACTLY `Constraints::filter` of the result
without: same elements, same order.  (The reference vector and the sort cost are then the same with
and without constraints, so no commutation of filter and sort is needed.) -/
theorem continuing5_exact (p : Params R) (c : Constraints R) (pose : Iso R) (prev : J6 R)
    (hprev : isNaN prev.j1 = false) (hw : feq c.sortingWeight byPrev = true) :
    (⟨p, some c⟩ : Opw R).inverseContinuing5dof pose prev =
      c.filter ((⟨p, none⟩ : Opw R).inverseContinuing5dof pose prev) := by
  have hcost : (⟨p, some c⟩ : Opw R).sortCost prev = (⟨p, none⟩ : Opw R).sortCost prev := by
    funext a
    simp [Opw.sortCost, hw]
  simp only [Opw.inverseContinuing5dof, Opw.reference, hprev, Opw.filterCompliant,
    Opw.sortByCloseness, hcost, Bool.false_eq_true, if_false]

theorem continuing5_exact_mem (p : Params R) (c : Constraints R) (pose : Iso R) (prev : J6 R)
    (hprev : isNaN prev.j1 = false) (hw : feq c.sortingWeight byPrev = true) (s : J6 R) :
    s ∈ (⟨p, some c⟩ : Opw R).inverseContinuing5dof pose prev ↔
      s ∈ (⟨p, none⟩ : Opw R).inverseContinuing5dof pose prev ∧ c.compliant s = true := by
  rw [continuing5_exact p c pose prev hprev hw, Constraints.filter, List.mem_filter]

/-- Without the two hypotheses the reference vector or the order may differ, but every returned
vector still comes from the same `inverse_intern_5_dof` list and is compliant. -/
theorem continuing5_mem_general (p : Params R) (c : Constraints R) (pose : Iso R) (prev s : J6 R) :
    s ∈ (⟨p, some c⟩ : Opw R).inverseContinuing5dof pose prev ↔
      (∃ s0 ∈ inverseIntern5 p pose prev.j6,
        s = s0.normalizeNear ((⟨p, some c⟩ : Opw R).reference prev)) ∧ c.compliant s = true :=
  mem_inverseContinuing5dof

example (hprev : isNaN Ex.prev.j1 = false) (hw : feq Ex.cons.sortingWeight (byPrev : Float) = true) :
    Ex.k5c.inverseContinuing5dof Ex.pose Ex.prev =
      Ex.cons.filter (Ex.k5.inverseContinuing5dof Ex.pose Ex.prev) :=
  continuing5_exact Ex.p5 Ex.cons Ex.pose Ex.prev hprev hw

/-- the two hypotheses are satisfiable: in the real reading no number is NaN, and a constraint set
built with `BY_PREV` has `sortingWeight == BY_PREV` (`Float`'s `isNaN` / `==` are opaque to the
kernel, hence they stay hypotheses in the `Float` example above) -/
example (p : Params ℝ) (f t : J6 ℝ) (pose : Iso ℝ) (prev : J6 ℝ) :
    (⟨p, some (Constraints.mk' f t byPrev)⟩ : Opw ℝ).inverseContinuing5dof pose prev =
      (Constraints.mk' f t byPrev).filter ((⟨p, none⟩ : Opw ℝ).inverseContinuing5dof pose prev) :=
  continuing5_exact p _ pose prev rfl (by simp [Constraints.mk', feq_real])

end Opw.C08
