/-
  Source tie for the stroke planner (C12): the densification of the stroke — `add_intermediate_poses`, translated expression
  by expression from the CURRENT text of path_plan/cartesian.rs (`Generated/SrcCart.lean`, rewritten by `tools/rs2lean_cart.py`
  on every run), and `with_intermediate_poses` (one idiom) — and `utils::transition_costs` are the model's `intermediatePoses`,
  `withIntermediatePoses`, `transitionCosts`, on which the C12 theorems about the waypoint list (order and flags of landing /
  stroke / parking poses, interpolated poses on the straight segment, consecutive waypoints within the transition cost) are
  stated.  Generic in the number type.  The search itself (`plan`, `probe_strategy`, `step_adaptive_linear_transition`) stays
  hand-modelled and tied by the differential run.
-/
import OpwVerif.Generated.SrcCart
namespace Opw.TieCart
variable {R : Type} [OpwNum R]

/-- the poses `add_intermediate_poses` pushes between two poses -/
theorem intermediatePoses_is_source (a b : Iso R) (stepM stepRad : R) (ofNat : Nat → R) :
    SrcCart.intermediatePosesSrc a b stepM stepRad ofNat = intermediatePoses a b stepM stepRad ofNat :=
  rfl

/-- the densified pose list: LAND, every stroke pose preceded by the poses between its predecessor and it and flagged
TRACE, the poses between the last one and the parking pose, PARK -/
theorem withIntermediatePoses_is_source (land : Iso R) (steps : List (Iso R)) (park : Iso R) (stepM stepRad : R) (ofNat : Nat → R) :
    SrcCart.withIntermediatePosesSrc land steps park stepM stepRad ofNat = withIntermediatePoses land steps park stepM stepRad ofNat := by
  -- the two local recursions over the stroke agree; the rest of the two bodies is the same text
  have stroke : ∀ (ip : Iso R → Iso R → List (APose R)) (steps : List (Iso R)) (prev : Iso R),
      SrcCart.withIntermediatePosesSrc.stroke park ip prev steps =
        withIntermediatePoses.stroke park ip prev steps := by
    intro ip steps
    induction steps with
    | nil => intro prev; rfl
    | cons s rest ih =>
      intro prev
      simp only [SrcCart.withIntermediatePosesSrc.stroke, withIntermediatePoses.stroke, ih]
  unfold SrcCart.withIntermediatePosesSrc withIntermediatePoses
  simp only [stroke]
  rfl

/-- `utils::transition_costs`: the weighted sum of the six joint differences -/
theorem transitionCosts_is_source (a b c : J6 R) : SrcCart.transitionCostsSrc a b c = transitionCosts a b c :=
  rfl

end Opw.TieCart
