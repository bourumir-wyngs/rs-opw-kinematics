/-
  C02 (completeness part) — the closed-form inverse kinematics, asked for the pose of a
  configuration that is not at a shoulder, elbow or wrist singularity, returns that configuration
  (modulo whole turns) among its answers.

  The model text of `Kin.lean` in exact real arithmetic; the argument is in
  `Lemmas/IkComplete.lean`.  In θ-space (`θ = joint · sign − offset`):
  * `poseOf p θ` is the pose `forward` returns for θ;
  * `NonSingular p θ`: `0 < c2`, `0 < κ = √(a2² + c3²)`, `cx1 p θ ≠ 0` (shoulder: `cx1` is the
    horizontal coordinate of the wrist centre in the frame of link 1; BOTH the front branch
    `cx1 > 0` and the back branch `cx1 < 0` are covered), `sin (θ3 + ψ3) ≠ 0` (elbow, `ψ3 =
    atan2(a2, c3)`), `sin θ5 ≠ 0` (wrist);
  * `J6TurnEq a b`: componentwise `aᵢ = bᵢ + 2πk`, `k : ℤ`.
-/
import OpwVerif.Lemmas.Corollaries
import OpwVerif.Props.C02
namespace Opw.C02b
open Opw Opw.Wrist Opw.C02 Opw.IkComplete

/-- C02, completeness in θ-space: the eight raw candidates computed for the pose of a non-singular
configuration `θ` contain `θ` modulo whole turns. -/
theorem theta_candidate_complete (p : Params ℝ) (θ : J6 ℝ) (h : NonSingular p θ) :
    ∃ t ∈ thetaCandidates p (poseOf p θ), J6TurnEq t θ :=
  IkComplete.theta_candidate_complete p θ h

/-- C02, completeness of `inverse_intern`: for a joint vector `j` whose θ is non-singular, the
answer list for the pose `forward p j` contains an `s` that equals `j` in θ-space modulo whole
turns and has exactly the requested pose. -/
theorem ik_complete (p : Params ℝ) (hs : SignsOk p) (j : J6 ℝ) (h : NonSingular p (thetaOf p j)) :
    ∃ s ∈ inverseIntern p (forward p j), J6TurnEq (thetaOf p s) (thetaOf p j) ∧
      forward p s = forward p j := by
  obtain ⟨s, hs1, hs2⟩ := ik_complete_intern p hs j h
  exact ⟨s, hs1, hs2, forward_congr p hs2⟩

/-- C02, completeness of the public `inverse` of a 6-DOF robot without constraints -/
theorem inverse_complete (k : Opw ℝ) (hs : SignsOk k.p) (hdof : k.p.dof ≠ 5) (hc : k.cons = none)
    (j : J6 ℝ) (h : NonSingular k.p (thetaOf k.p j)) :
    ∃ s ∈ k.inverse (forward k.p j), J6TurnEq (thetaOf k.p s) (thetaOf k.p j) ∧
      forward k.p s = forward k.p j := by
  rw [inverse_eq_intern k hdof hc]
  exact ik_complete k.p hs j h

/-- exact round trip: if moreover every joint of `j` lies in `(−π, π)`, `j` ITSELF is among the
answers for its own pose.  (Offsets within `100000` rad: a round bound under which the `normFuel`
iterations of the normalisation loop suffice, `Nearest.raw_add_offset_le`.) -/
theorem inverse_roundtrip (k : Opw ℝ) (hs : SignsOk k.p) (hdof : k.p.dof ≠ 5) (hc : k.cons = none)
    (ho : Nearest.absLe k.p.offsets 100000) (j : J6 ℝ) (hj : InsidePi j)
    (h : NonSingular k.p (thetaOf k.p j)) : j ∈ k.inverse (forward k.p j) := by
  rw [inverse_eq_intern k hdof hc]
  exact ik_roundtrip_intern k.p hs ho j hj h

/-- non-vacuity: a joint vector of the robot `pEx` of C02; in θ-space `(0, 0, π/2, 0, π/2, −π)` -/
noncomputable def jEx : J6 ℝ := ⟨0, 0, 0, 0, -0.3 - Real.pi / 2, 0⟩

theorem thetaOf_jEx : thetaOf pEx jEx = ⟨0, 0, Real.pi / 2, 0, Real.pi / 2, -Real.pi⟩ := by
  simp only [thetaOf, pEx, jEx, sub_zero, zero_add, mul_neg, mul_one, neg_zero, zero_sub, neg_div, neg_sub,
    sub_neg_eq_add, add_sub_cancel_right]

theorem kappa_pEx_pos : 0 < kappa pEx :=
  kappa_pos_of_c3 (by simp only [pEx]; norm_num)

/-- front shoulder (`cx1 = c3 + a1 = 0.39`), elbow at a right angle plus `ψ3`, wrist at a right
angle -/
theorem nonSingular_ex : NonSingular pEx (thetaOf pEx jEx) := by
  have hk := kappa_pEx_pos
  have hcos : kappa pEx * Real.cos (psi3 pEx) = 0.365 := kappa_cos pEx.a2 pEx.c3
  rw [thetaOf_jEx]
  refine ⟨by simp only [pEx]; norm_num, hk, ?_, ?_, ?_⟩
  · rw [cx1, armX_upright]; simp only [pEx]; norm_num
  · -- sin φ = sin(π/2 + ψ3) = cos ψ3 ≠ 0
    rw [phi, add_comm, Real.sin_add_pi_div_two]
    intro h0
    rw [h0, mul_zero] at hcos
    norm_num at hcos
  · show Real.sin (Real.pi / 2) ≠ 0
    rw [Real.sin_pi_div_two]; exact one_ne_zero

example : ∃ (p : Params ℝ) (θ : J6 ℝ), NonSingular p θ := ⟨pEx, _, nonSingular_ex⟩

theorem signsOk_pEx : SignsOk pEx :=
  ⟨Or.inl rfl, Or.inl rfl, Or.inr rfl, Or.inr rfl, Or.inr rfl, Or.inr rfl⟩

theorem insidePi_jEx : InsidePi jEx := by
  have h3 := Real.two_le_pi
  have hp := Real.pi_pos
  have h0 : |(0 : ℝ)| < Real.pi := by rw [abs_zero]; exact hp
  refine ⟨h0, h0, h0, h0, ?_, h0⟩
  rw [jEx, abs_lt]
  constructor
  · linear_combination (1 / 2 : ℝ) * h3
  · linear_combination (3 / 2 : ℝ) * hp

theorem offsets_pEx : Nearest.absLe pEx.offsets 100000 := by
  have hp := Real.pi_pos
  have h0 : |(0 : ℝ)| ≤ 100000 := by rw [abs_zero]; norm_num
  refine ⟨h0, h0, ?_, h0, ?_, ?_⟩
  · show |-Real.pi / 2| ≤ 100000
    rw [neg_div, abs_neg, abs_of_pos Real.pi_div_two_pos]
    exact Real.pi_div_two_le_two.trans (by norm_num)
  · show |(0.3 : ℝ)| ≤ 100000
    norm_num
  · show |Real.pi| ≤ 100000
    rw [abs_of_pos hp]; exact Real.pi_le_four.trans (by norm_num)

/-- the hypotheses of `inverse_roundtrip` are jointly satisfiable: the unconstrained solver for
`pEx` returns `jEx` for the pose of `jEx` -/
example : jEx ∈ (⟨pEx, none⟩ : Opw ℝ).inverse (forward pEx jEx) :=
  inverse_roundtrip ⟨pEx, none⟩ signsOk_pEx (by decide) rfl offsets_pEx jEx insidePi_jEx nonSingular_ex

end Opw.C02b
