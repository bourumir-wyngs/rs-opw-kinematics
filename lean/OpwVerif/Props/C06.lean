/-
  C06 — 5-DOF inverse kinematics keeps J6 as requested and reproduces the requested POSITION;
  robots declared 5-DOF answer all entry points through the 5-DOF solvers.

  All theorems are generic in the number type with NO assumption on the arithmetic, so they hold of
  the IEEE `Float` reading of the model itself.

  The `Float` `example`s take the hypothesis of the theorem they instantiate as their own hypothesis:
  list membership over `Float` cannot be evaluated by the kernel, so they are instantiation tests of
  the generic statements at the `Float` objects of `Lemmas/Sound.lean`, not computations.
-/
import OpwVerif.Props.C01
import OpwVerif.Real
namespace Opw.C06
variable {R : Type} [OpwNum R]

/-- `inverse_5dof`: J6 of every answer is the requested value (bit for bit in the `Float` reading: it
is stored, never computed). -/
theorem inverse5_j6 {k : Opw R} {pose : Iso R} {j6 : R} {s : J6 R}
    (h : s ∈ k.inverse5dof pose j6) : s.j6 = j6 :=
  (C01.inverse5dof_sound h).2

example {s : J6 Float} (h : s ∈ Ex.k5c.inverse5dof Ex.pose 0.25) : s.j6 = 0.25 := inverse5_j6 h

theorem stack_inverse5_j6 {k : Kin R} (hk : k.noPara) {pose : Iso R} {j6 : R} {s : J6 R}
    (h : s ∈ k.inverse5dof pose j6) : s.j6 = j6 :=
  (C01.stack_inverse5dof_sound hk h).2

theorem plain_stack_inverse5_j6 {k : Kin R} (hk : k.plain) {pose : Iso R} {j6 : R} {s : J6 R}
    (h : s ∈ k.inverse5dof pose j6) : s.j6 = j6 :=
  stack_inverse5_j6 hk.noPara h

example {s : J6 Float} (h : s ∈ Ex.stack5.inverse5dof Ex.pose 0.25) : s.j6 = 0.25 :=
  plain_stack_inverse5_j6 Ex.stack5_plain h

/-- `inverse_5dof`: every answer passed `compare_xyz_only` against the requested translation. -/
theorem inverse5_point {k : Opw R} {pose : Iso R} {j6 : R} {s : J6 R}
    (h : s ∈ k.inverse5dof pose j6) : Sound5 k.p pose s :=
  (C01.inverse5dof_sound h).1

example {s : J6 Float} (h : s ∈ Ex.k5c.inverse5dof Ex.pose 0.25) : Sound5 Ex.k5c.p Ex.pose s :=
  inverse5_point h

theorem stack_inverse5_point {k : Kin R} (hk : k.noPara) {pose : Iso R} {j6 : R} {s : J6 R}
    (h : s ∈ k.inverse5dof pose j6) : Sound5 k.core.p (k.localPose pose) s :=
  (C01.stack_inverse5dof_sound hk h).1

/-- a robot declared 5-DOF answers the general entry points through the 5-DOF solvers -/
theorem dof5_dispatch {k : Opw R} (hd : k.p.dof = 5) (pose : Iso R) (prev : J6 R) :
    k.inverse pose = k.inverse5dof pose 0 ∧
      k.inverseContinuing pose prev = k.inverseContinuing5dof pose prev :=
  ⟨Opw.inverse_of_dof5 hd pose, Opw.inverseContinuing_of_dof5 hd pose prev⟩

example : Ex.k5c.inverse Ex.pose = Ex.k5c.inverse5dof Ex.pose 0 ∧
    Ex.k5c.inverseContinuing Ex.pose Ex.prev = Ex.k5c.inverseContinuing5dof Ex.pose Ex.prev :=
  dof5_dispatch Ex.p5_dof Ex.pose Ex.prev

theorem dof6_dispatch {k : Opw R} (hd : k.p.dof ≠ 5) (pose : Iso R) (prev : J6 R) :
    k.inverse pose = k.filterCompliant (inverseIntern k.p pose) ∧
      k.inverseContinuing pose prev = k.inverseContinuing6 pose prev :=
  ⟨Opw.inverse_of_dof6 hd pose, Opw.inverseContinuing_of_dof6 hd pose prev⟩

/-- The dispatch holds through EVERY wrapper stack, `Parallelogram` and collision filtering included:
the wrappers forward each entry point to the same entry point of the inner solver and post-process
the answers identically. -/
theorem stack_dof5_dispatch : ∀ (k : Kin R), k.core.p.dof = 5 → ∀ (pose : Iso R) (prev : J6 R),
    k.inverse pose = k.inverse5dof pose 0 ∧
      k.inverseContinuing pose prev = k.inverseContinuing5dof pose prev := by
  intro k hd pose prev
  rw [Kin.inverse_eq_lift, Kin.inverse5dof_eq_lift, Kin.inverseContinuing_eq_lift,
    Kin.inverseContinuing5dof_eq_lift]
  exact ⟨Kin.lift_congr k (Opw.inverse_of_dof5 hd) pose,
    Kin.lift_congr k (fun p => Opw.inverseContinuing_of_dof5 hd p prev) pose⟩

example : Ex.stack5.inverse Ex.pose = Ex.stack5.inverse5dof Ex.pose 0 :=
  (stack_dof5_dispatch Ex.stack5 Ex.p5_dof Ex.pose Ex.prev).1

theorem inverse_dof5_j6 {k : Opw R} (hd : k.p.dof = 5) {pose : Iso R} {s : J6 R}
    (h : s ∈ k.inverse pose) : s.j6 = 0 :=
  (C01.inverse_sound5 hd h).2

/-- `inverse_continuing_5dof`: J6 of every answer is `normalize_near(prev[5], reference[5])`, where
`reference` is `prev` itself, or the constraint centres for the `CONSTRAINT_CENTERED` sentinel
(`prev[0]` NaN).

FULL: `s ∈ k.inverseContinuing5dof pose prev → s.j6 = prev.j6` for non-sentinel `prev`.
Gap: `inverse_intern_5_dof` stores `prev[5]` unchanged, but the result is then passed through
`normalize_near(·, reference)` component-wise, J6 included.  That `normalize_near(x, x) = x`
is an ARITHMETIC fact, not a control-structure one; over ℝ it is `Nearest.normalizeNear_self`
(used in `C06b.inverseContinuing5dof_roundtrip`).  Generically only the form below holds. -/
theorem inverseContinuing5_j6_partial {k : Opw R} {pose : Iso R} {prev s : J6 R}
    (h : s ∈ k.inverseContinuing5dof pose prev) :
    s.j6 = normalizeNear prev.j6 (k.reference prev).j6 := by
  obtain ⟨s0, -, rfl, -, hj⟩ := C01.inverseContinuing5dof_sound h
  show normalizeNear s0.j6 (k.reference prev).j6 = _
  rw [hj]

/-- for a genuine previous position (not the sentinel) -/
theorem inverseContinuing5_j6_partial' {k : Opw R} {pose : Iso R} {prev s : J6 R}
    (hprev : isNaN prev.j1 = false) (h : s ∈ k.inverseContinuing5dof pose prev) :
    s.j6 = normalizeNear prev.j6 prev.j6 := by
  rw [inverseContinuing5_j6_partial h, Opw.reference_of_not_nan k hprev]

theorem inverseContinuing5_j6_const {k : Opw R} {pose : Iso R} {prev s s' : J6 R}
    (h : s ∈ k.inverseContinuing5dof pose prev) (h' : s' ∈ k.inverseContinuing5dof pose prev) :
    s.j6 = s'.j6 := by
  rw [inverseContinuing5_j6_partial h, inverseContinuing5_j6_partial h']

theorem stack_inverseContinuing5_j6_partial {k : Kin R} (hk : k.noPara) {pose : Iso R}
    {prev s : J6 R} (h : s ∈ k.inverseContinuing5dof pose prev) :
    s.j6 = normalizeNear prev.j6 (k.core.reference prev).j6 :=
  inverseContinuing5_j6_partial (Kin.noPara_inverseContinuing5dof_mem k hk pose prev s h)

example {s : J6 Float} (h : s ∈ Ex.k5c.inverseContinuing5dof Ex.pose Ex.prev) :
    s.j6 = normalizeNear Ex.prev.j6 (Ex.k5c.reference Ex.prev).j6 :=
  inverseContinuing5_j6_partial h

/-- the non-sentinel hypothesis is satisfiable (real reading: no NaN); `Float.isNaN` is opaque to
the kernel, so at `Float` it stays a hypothesis -/
example (k : Opw ℝ) (pose : Iso ℝ) (prev s : J6 ℝ) (h : s ∈ k.inverseContinuing5dof pose prev) :
    s.j6 = normalizeNear prev.j6 prev.j6 :=
  inverseContinuing5_j6_partial' rfl h

example {s : J6 Float} (hprev : isNaN Ex.prev.j1 = false)
    (h : s ∈ Ex.k5c.inverseContinuing5dof Ex.pose Ex.prev) :
    s.j6 = normalizeNear Ex.prev.j6 Ex.prev.j6 :=
  inverseContinuing5_j6_partial' hprev h

end Opw.C06
