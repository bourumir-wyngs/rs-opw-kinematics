/-
  C15c — Jacobian, geometric clause, WRAPPED robots (C15b treats the bare robot):
  "For any robot (bare or wrapped) and joint vector, the Jacobian agrees column by column with the
  geometric one built from the joint axes and origins of the independent link model (axis × lever arm,
  axis) to within the differencing step."

  `Jacobian::new(robot: &impl Kinematics, qs, epsilon)` takes the forward function of ANY robot, so
  `jacobianColumn k.forward` is the numeric Jacobian of the wrapper stack `k : Kin ℝ` (Tool / Base /
  Frame / KinematicsWithShape around an `OPWKinematics`).  The stack must contain no Parallelogram
  (`k.noPara`) and every wrapper isometry must carry a unit quaternion (`k.WF`, as in C09).  For the
  LAST link (`i = 5`) the link form of the statements needs a stack without `Frame`, because `Frame`
  multiplies the last link pose by the frame transform (C09), which takes it off the joint axis; the
  columns themselves (`stackAxis`, `stackOrg`) need no such restriction.
  All theorems are over ℝ; they are the lemmas about a `JacCols.Revolute` joint applied to
  `JacStack.stack_revolute`.

  Notation (0-based joint index `i < 6`; `p = k.core.p`, `θ = thetaOf p j`, `B = k.baseOf` the accumulated
  base isometry with rotation matrix `R_B`, `Eᵢ, aᵢ, oᵢ, sᵢ` the bare-robot data of C15b):
   * `stackRot k j i φ = R_B Eᵢ(φ) R_Bᵀ` — `E'(φ)`: the rotation by `φ` about the base-moved joint axis;
   * `stackAxis k j i = R_B aᵢ`         — `a'`: the joint axis of the stack in the world frame;
   * `stackOrg k j i = B · oᵢ`          — `o'`: the base-moved link origin, a point on that axis;
   * `t' = (k.forward j).t`             — the tool position of the stack (lever arm extended by the tool).
-/
import OpwVerif.Lemmas.JacStack
import OpwVerif.Props.C15b
import OpwVerif.Props.C09
namespace Opw.C15c
open Opw.JacCols Opw.JacStack

/-- the definitions of `E'`, `a'`, `o'` -/
theorem stack_data_eqns (k : Kin ℝ) (j : J6 ℝ) (i : Nat) (φ : ℝ) :
    stackRot k j i φ =
      (k.baseOf.q.toMat.mul (jointRot (thetaOf k.core.p j) i φ)).mul k.baseOf.q.toMat.transpose ∧
    stackAxis k j i = k.baseOf.q.toMat.mulVec (worldAxis (thetaOf k.core.p j) i) ∧
    stackOrg k j i = k.baseOf.transformPoint (linkOrg k.core.p (thetaOf k.core.p j) i) ∧
    stackOrg k j i =
      (k.baseOf.q.rotate (linkOrg k.core.p (thetaOf k.core.p j) i)).add k.baseOf.t :=
  ⟨rfl, rfl, rfl, rfl⟩

/-- a Tool, a Frame and a collision filter leave the data unchanged; a Base `b` conjugates the
rotation by `R_b`, rotates the axis by `R_b` and moves the origin by `b` -/
theorem stack_data_wrappers (k : Kin ℝ) (hw : k.WF) (x : Iso ℝ) (hx : x.q.normSq = 1)
    (c : J6 ℝ → Bool) (j : J6 ℝ) (i : Nat) (φ : ℝ) :
    (stackRot (.tool k x) j i φ = stackRot k j i φ ∧ stackAxis (.tool k x) j i = stackAxis k j i ∧
      stackOrg (.tool k x) j i = stackOrg k j i) ∧
    (stackRot (.frame k x) j i φ = stackRot k j i φ ∧ stackAxis (.frame k x) j i = stackAxis k j i ∧
      stackOrg (.frame k x) j i = stackOrg k j i) ∧
    (stackRot (.shape k c) j i φ = stackRot k j i φ ∧ stackAxis (.shape k c) j i = stackAxis k j i ∧
      stackOrg (.shape k c) j i = stackOrg k j i) ∧
    (stackRot (.base k x) j i φ = (x.q.toMat.mul (stackRot k j i φ)).mul x.q.toMat.transpose ∧
      stackAxis (.base k x) j i = x.q.toMat.mulVec (stackAxis k j i) ∧
      stackOrg (.base k x) j i = x.transformPoint (stackOrg k j i)) := by
  refine ⟨⟨rfl, rfl, rfl⟩, ⟨rfl, rfl, rfl⟩, ⟨rfl, rfl, rfl⟩, ?_, stackAxis_base k x j i,
    stackOrg_base k hw x hx j i⟩
  show JacCols.conj (x.q.mul k.baseOf.q).toMat _ = JacCols.conj x.q.toMat (JacCols.conj _ _)
  rw [conj_conj, Quat.toMat_mul]; rfl

theorem stackRot_is_rotation_about_axis (k : Kin ℝ) (hw : k.WF) (j : J6 ℝ) (i : Nat) (φ : ℝ) :
    IsRot (stackRot k j i φ) ∧ stackRot k j i 0 = M3.one ∧
    (stackRot k j i φ).mulVec (stackAxis k j i) = stackAxis k j i ∧ (stackAxis k j i).normSq = 1 ∧
    stackRot k j i φ = (axisQuat (stackAxis k j i) (φ / 2)).toMat := by
  have ha := stackAxis_normSq k hw j i
  simp only [stackRot_eq k hw]
  exact ⟨IsRot_axisRot ha φ, axisRot_zero _, axisRot_mulVec_axis ha φ, ha, rfl⟩

/-- adding `ε` to joint `i` rotates the pose `k.forward j` by `E'(ε sᵢ)` about `o'`, and the relative
rotation used for the angular part of column `i` is a unit quaternion with that matrix -/
theorem stack_forward_perturb_joint (k : Kin ℝ) (hp : k.noPara) (hw : k.WF) (j : J6 ℝ) (i : Nat)
    (hi : i < 6) (e : ℝ) :
    (k.forward (j.set i (j.get i + e))).t =
      (stackOrg k j i).add ((stackRot k j i (e * k.core.p.signs.get i)).mulVec
        ((k.forward j).t.sub (stackOrg k j i))) ∧
    (k.forward (j.set i (j.get i + e))).q.toMat =
      (stackRot k j i (e * k.core.p.signs.get i)).mul (k.forward j).q.toMat ∧
    ((k.forward (j.set i (j.get i + e))).q.mul (k.forward j).q.conj).toMat =
      stackRot k j i (e * k.core.p.signs.get i) ∧
    ((k.forward (j.set i (j.get i + e))).q.mul (k.forward j).q.conj).normSq = 1 := by
  have h := (stack_revolute k hp hw j hi).moved e
  rw [← stackRot_eq k hw] at h
  obtain ⟨hm, hu⟩ := h.rel (Kin.forward_unit k hw _) (Kin.forward_unit k hw _)
  exact ⟨h.org, h.rot, hm, hu⟩

/-- a single `Tool` over a bare robot: the same rotation about the same origin, applied to the
tool-extended pose (no condition on the tool needed) -/
theorem tool_forward_perturb_joint (p : Params ℝ) (t : Iso ℝ) (j : J6 ℝ) (i : Nat) (hi : i < 6)
    (e : ℝ) :
    ((forward p (j.set i (j.get i + e))).mul t).t =
      (linkOrg p (thetaOf p j) i).add ((jointRot (thetaOf p j) i (e * p.signs.get i)).mulVec
        (((forward p j).mul t).t.sub (linkOrg p (thetaOf p j) i))) ∧
    ((forward p (j.set i (j.get i + e))).mul t).q.toMat =
      (jointRot (thetaOf p j) i (e * p.signs.get i)).mul ((forward p j).mul t).q.toMat := by
  have h := (forward_moved p j hi e).tool (JacCols.forward_unit p _) (JacCols.forward_unit p _) t
  exact ⟨h.org, h.rot⟩

/-- a single `Base` over a bare robot: rotation `R_b Eᵢ(ε sᵢ) R_bᵀ` about `b · oᵢ` -/
theorem base_forward_perturb_joint (p : Params ℝ) (b : Iso ℝ) (hb : b.q.normSq = 1) (j : J6 ℝ)
    (i : Nat) (hi : i < 6) (e : ℝ) :
    (b.mul (forward p (j.set i (j.get i + e)))).t =
      (b.transformPoint (linkOrg p (thetaOf p j) i)).add
        (((b.q.toMat.mul (jointRot (thetaOf p j) i (e * p.signs.get i))).mul
            b.q.toMat.transpose).mulVec
          ((b.mul (forward p j)).t.sub (b.transformPoint (linkOrg p (thetaOf p j) i)))) ∧
    (b.mul (forward p (j.set i (j.get i + e)))).q.toMat =
      ((b.q.toMat.mul (jointRot (thetaOf p j) i (e * p.signs.get i))).mul
        b.q.toMat.transpose).mul (b.mul (forward p j)).q.toMat := by
  have h := (forward_moved p j hi e).base b hb
  exact ⟨h.org, h.rot⟩

/-- the angular part of column `i` is exactly `sᵢ · R_B aᵢ` for every step with `ε ≠ 0`, `|ε sᵢ| < π` -/
theorem stack_jacobian_column_angular (k : Kin ℝ) (hp : k.noPara) (hw : k.WF) (j : J6 ℝ) (i : Nat)
    (hi : i < 6) (e : ℝ) (he : e ≠ 0) (hs : |e * k.core.p.signs.get i| < Real.pi) :
    (jacobianColumn k.forward j e i).ang = (stackAxis k j i).scale (k.core.p.signs.get i) :=
  (stack_revolute k hp hw j hi).ang he hs

/-- the linear part of column `i`: `((E'(ε sᵢ) − 1)(t' − o')) / ε` -/
theorem stack_jacobian_column_linear (k : Kin ℝ) (hp : k.noPara) (hw : k.WF) (j : J6 ℝ) (i : Nat)
    (hi : i < 6) (e : ℝ) :
    (jacobianColumn k.forward j e i).lin =
      (((stackRot k j i (e * k.core.p.signs.get i)).mulVec ((k.forward j).t.sub (stackOrg k j i))).sub
        ((k.forward j).t.sub (stackOrg k j i))).divs e := by
  rw [stackRot_eq k hw]
  exact (stack_revolute k hp hw j hi).lin e

/-- Rodrigues' formula for `E'(φ)` -/
theorem stackRot_rodrigues_formula (k : Kin ℝ) (hw : k.WF) (j : J6 ℝ) (i : Nat) (φ : ℝ) (v : V3 ℝ) :
    (stackRot k j i φ).mulVec v =
      (v.add (((stackAxis k j i).cross v).scale (Real.sin φ))).add
        (((stackAxis k j i).cross ((stackAxis k j i).cross v)).scale (1 - Real.cos φ)) := by
  rw [stackRot_eq k hw]
  exact axisRot_mulVec (stackAxis_normSq k hw j i) φ v

/-- the lever arm of a Tool/Base/Frame stack is the bare lever arm extended by the accumulated tool
`T = k.toolOf` and rotated by the base, so it has the length of the tool-extended bare lever arm -/
theorem stack_lever_arm (k : Kin ℝ) (hp : k.plain) (hw : k.WF) (j : J6 ℝ) (i : Nat) :
    (k.forward j).t.sub (stackOrg k j i) =
      k.baseOf.q.toMat.mulVec ((((forward k.core.p j).mul k.toolOf).t).sub
        (linkOrg k.core.p (thetaOf k.core.p j) i)) ∧
    ((k.forward j).t.sub (stackOrg k j i)).norm =
      ((((forward k.core.p j).mul k.toolOf).t).sub (linkOrg k.core.p (thetaOf k.core.p j) i)).norm := by
  have hB := Kin.baseOf_unit k hw
  have h1 : (k.forward j).t.sub (stackOrg k j i) =
      k.baseOf.q.toMat.mulVec ((((forward k.core.p j).mul k.toolOf).t).sub
        (linkOrg k.core.p (thetaOf k.core.p j) i)) := by
    rw [Kin.stack_forward k hp hw j]
    show (k.baseOf.t.add (k.baseOf.q.rotate _)).sub ((k.baseOf.q.rotate _).add k.baseOf.t) = _
    rw [Quat.rotate_eq_mulVec _ hB, Quat.rotate_eq_mulVec _ hB, V3.add_sub_add_cancel,
      M3.mulVec_sub]
  refine ⟨h1, ?_⟩
  rw [h1, V3.norm_eq, V3.norm_eq, (IsRot_baseOf k hw).normSq_mulVec]

/-- `JacStack.frameFree` case by case -/
theorem frameFree_eqns (k : Opw ℝ) (i : Kin ℝ) (x : Iso ℝ) (c : J6 ℝ → Bool) :
    (frameFree (.opw k) ↔ True) ∧ (frameFree (.tool i x) ↔ frameFree i) ∧
    (frameFree (.base i x) ↔ frameFree i) ∧ (frameFree (.frame i x) ↔ False) ∧
    (frameFree (.shape i c) ↔ frameFree i) :=
  ⟨Iff.rfl, Iff.rfl, Iff.rfl, Iff.rfl, Iff.rfl⟩

/-- C15, geometric clause, wrapped robots, every joint `i < 6`, with axis `a = l.q · eᵢ` and origin
`o = l.t` read off link `i` of `k.links j`: the linear part of column `i` converges to
`s · a × (t' − o)` and the angular part is `s · a` exactly. -/
theorem stack_jacobian_column_geometric_limit (k : Kin ℝ) (hp : k.noPara) (hw : k.WF) (j : J6 ℝ)
    (i : Nat) (hi : i < 6) (hf : i < 5 ∨ frameFree k) :
    ∃ l : Iso ℝ, (k.links j)[i]? = some l ∧
      (l.q.rotate (localAxis i)).normSq = 1 ∧
      (∀ e : ℝ, (computeJacobian k.forward j e)[i]? = some (jacobianColumn k.forward j e i)) ∧
      Filter.Tendsto (fun e : ℝ => (jacobianColumn k.forward j e i).lin.x) (nhdsWithin 0 {0}ᶜ)
        (nhds (((l.q.rotate (localAxis i)).cross ((k.forward j).t.sub l.t)).scale
          (k.core.p.signs.get i)).x) ∧
      Filter.Tendsto (fun e : ℝ => (jacobianColumn k.forward j e i).lin.y) (nhdsWithin 0 {0}ᶜ)
        (nhds (((l.q.rotate (localAxis i)).cross ((k.forward j).t.sub l.t)).scale
          (k.core.p.signs.get i)).y) ∧
      Filter.Tendsto (fun e : ℝ => (jacobianColumn k.forward j e i).lin.z) (nhdsWithin 0 {0}ᶜ)
        (nhds (((l.q.rotate (localAxis i)).cross ((k.forward j).t.sub l.t)).scale
          (k.core.p.signs.get i)).z) ∧
      ∀ e : ℝ, e ≠ 0 → |e * k.core.p.signs.get i| < Real.pi →
        (jacobianColumn k.forward j e i).ang =
          (l.q.rotate (localAxis i)).scale (k.core.p.signs.get i) := by
  obtain ⟨l, hl, h⟩ := stack_link_revolute k hp hw j hi hf
  exact ⟨l, hl, h.axis, fun e => (C15.computeJacobian_columns k.forward j e).2 i hi,
    h.tendsto.1, h.tendsto.2.1, h.tendsto.2.2, fun e => h.ang⟩

/-- C15, geometric clause, "to within the differencing step", wrapped robots, for `signᵢ = ±1` and
`0 < |ε| ≤ 1`: every component of the linear part of column `i` is within `|ε| · ‖t' − o‖` of
`s · a × (t' − o)`, and the angular part is exactly `s · a`. -/
theorem stack_jacobian_column_geometric_within_step (k : Kin ℝ) (hp : k.noPara) (hw : k.WF)
    (j : J6 ℝ) (i : Nat) (hi : i < 6) (hf : i < 5 ∨ frameFree k)
    (hs : k.core.p.signs.get i = 1 ∨ k.core.p.signs.get i = -1) (e : ℝ) (he : e ≠ 0)
    (he1 : |e| ≤ 1) :
    ∃ l : Iso ℝ, (k.links j)[i]? = some l ∧
      (computeJacobian k.forward j e)[i]? = some (jacobianColumn k.forward j e i) ∧
      |(jacobianColumn k.forward j e i).lin.x -
          (((l.q.rotate (localAxis i)).cross ((k.forward j).t.sub l.t)).scale
            (k.core.p.signs.get i)).x| ≤ |e| * ((k.forward j).t.sub l.t).norm ∧
      |(jacobianColumn k.forward j e i).lin.y -
          (((l.q.rotate (localAxis i)).cross ((k.forward j).t.sub l.t)).scale
            (k.core.p.signs.get i)).y| ≤ |e| * ((k.forward j).t.sub l.t).norm ∧
      |(jacobianColumn k.forward j e i).lin.z -
          (((l.q.rotate (localAxis i)).cross ((k.forward j).t.sub l.t)).scale
            (k.core.p.signs.get i)).z| ≤ |e| * ((k.forward j).t.sub l.t).norm ∧
      (jacobianColumn k.forward j e i).ang =
        (l.q.rotate (localAxis i)).scale (k.core.p.signs.get i) := by
  obtain ⟨l, hl, h⟩ := stack_link_revolute k hp hw j hi hf
  exact ⟨l, hl, (C15.computeJacobian_columns k.forward j e).2 i hi, h.within_step hs he he1⟩

/-- for the bare robot (`Kin.opw`) the stack statements are those of C15b: same column, same data -/
theorem stack_reduces_to_bare (k : Opw ℝ) (j : J6 ℝ) (i : Nat) (e : ℝ) :
    jacobianColumn (Kin.opw k).forward j e i = jacobianColumn (forward k.p) j e i ∧
    stackAxis (.opw k) j i = worldAxis (thetaOf k.p j) i ∧
    stackOrg (.opw k) j i = linkOrg k.p (thetaOf k.p j) i :=
  ⟨rfl, stack_data_opw k j i⟩

/-- the stack of C09 (tool 1 unit along z on a robot on a base at (1,2,3) turned half a turn about z),
inside a collision filter: no Parallelogram, unit quaternions, no Frame -/
noncomputable def exStack (k : Opw ℝ) : Kin ℝ := .shape (C09.exStack k) (fun _ => false)

theorem exStack_noPara (k : Opw ℝ) : (exStack k).noPara := trivial
theorem exStack_WF (k : Opw ℝ) : (exStack k).WF := C09.exStack_WF k
theorem exStack_frameFree (k : Opw ℝ) : frameFree (exStack k) := trivial

/-- every index `0 … 5` of the example stack is covered, with the link of the stack's own link model -/
example (k : Opw ℝ) (j : J6 ℝ) :
    ∀ i ∈ [0, 1, 2, 3, 4, 5], ∃ l : Iso ℝ, ((exStack k).links j)[i]? = some l := by
  intro i hi
  have : i < 6 := by
    revert i
    decide
  obtain ⟨l, hl, -⟩ := stack_jacobian_column_geometric_limit (exStack k) (exStack_noPara k)
    (exStack_WF k) j i this (Or.inr (exStack_frameFree k))
  exact ⟨l, hl⟩

/-- the base of the example stack turns the axis of joint 1 (`ẑ`) into itself and the axis data are
`R_B aᵢ` with `R_B = diag(-1, -1, 1)`: the world axis of joint 1 of the stack is still `ẑ` -/
example (k : Opw ℝ) (j : J6 ℝ) : stackAxis (exStack k) j 0 = ⟨0, 0, 1⟩ := by
  have hB : (exStack k).baseOf = C09.exBase := Iso.mul_one C09.exBase
  have ha : worldAxis (thetaOf (exStack k).core.p j) 0 = ⟨0, 0, 1⟩ :=
    (C15b.worldAxis_table _).1
  show (exStack k).baseOf.q.toMat.mulVec (worldAxis (thetaOf (exStack k).core.p j) 0) = _
  rw [hB, ha]
  simp only [C09.exBase, Quat.toMat, M3.mulVec, lit2]
  apply V3.ext' <;> ring

/-- a concrete wrapped robot (`sign₂ = sign₅ = -1`, the other signs `1`), usual small step: the angular part of
every column of the numeric Jacobian of the stack is `± a'`, read off the stack's link poses -/
example (j : J6 ℝ) (i : Nat) (hi : i < 6) :
    let p : Params ℝ := ⟨1, 2, 3, 4, 5, 6, 7, ⟨0, 0, 0, 0, 0, 0⟩, ⟨1, -1, 1, 1, -1, 1⟩, 6⟩
    let k : Kin ℝ := exStack ⟨p, none⟩
    ∃ l : Iso ℝ, (k.links j)[i]? = some l ∧
      (jacobianColumn k.forward j 1e-6 i).ang = (l.q.rotate (localAxis i)).scale (p.signs.get i) := by
  intro p k
  have hs : k.core.p.signs.get i = 1 ∨ k.core.p.signs.get i = -1 := by
    rcases six_cases hi with rfl | rfl | rfl | rfl | rfl | rfl
    · exact Or.inl rfl
    · exact Or.inr rfl
    · exact Or.inl rfl
    · exact Or.inl rfl
    · exact Or.inr rfl
    · exact Or.inl rfl
  obtain ⟨l, hl, -, -, -, -, h⟩ := stack_jacobian_column_geometric_within_step k
    (exStack_noPara _) (exStack_WF _) j i hi (Or.inr (exStack_frameFree _)) hs 1e-6
    usual_step.1 usual_step.2
  exact ⟨l, hl, h⟩

/-- a stack WITH a frame (C09's base + frame stack): every column is still covered by the
`stackAxis`/`stackOrg` form, and by the link form for joints 1–5 -/
example (k : Opw ℝ) (j : J6 ℝ) (i : Nat) (hi : i < 6) (e : ℝ) (he : e ≠ 0)
    (hs : |e * k.p.signs.get i| < Real.pi) :
    (jacobianColumn (C09.exStackBF k).forward j e i).ang =
      (stackAxis (C09.exStackBF k) j i).scale (k.p.signs.get i) :=
  stack_jacobian_column_angular (C09.exStackBF k) trivial (C09.exStackBF_WF k) j i hi e he hs

end Opw.C15c
