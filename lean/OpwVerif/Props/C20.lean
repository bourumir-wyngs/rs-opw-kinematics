/-
  C20 — URDF extraction (`urdf.rs`, `from_urdf`; model `Urdf.lean`), from the collected joints on.

  Nothing here generates XML text or element trees.  The specification side is `jointsFor u lay names`:
  the six `JointData` entries (name, origin, axis sign, limits) that a description written from the
  parameters `u` in the joint layout `lay` contains.  Theorems about whole documents (`*_fromUrdf*`) take
  `collectJoints … r = some js` as a hypothesis.  What is proved:
  1. `populate` on `jointsFor u lay names` returns exactly `u` (parameters, sign corrections, limits)
     in each of the 32 layouts, under `LayoutOk` (`populate_roundtrip_eq`).  Every round trip assumes
     `u.dof = 6`: with six names `populate` always answers `dof = 6`; its 5-DOF branch (fewer than six
     names) has no theorem.
  2. The result depends on the joint list only through first-occurrence lookup by name, hence not on
     declaration order or on an identical second copy; collection is a pre-order concatenation, so
     wrapping in non-joint elements and joint-free siblings change nothing.
  3. Missing joints, conflicting duplicates, no root element, an unreadable origin: an error value.
  4. A joint without readable limits is unconstrained (from = to = 0); the axis → sign rule.
  5. Name decoration: the five documented decorated names and the six default names, each by kernel
     evaluation of `preprocessJointName`.  There is no general theorem about prefixes or decoration.

  Kinds: [G] generic (any number type `R`; holds of the Float reading itself),
         [Z] generic under `ZeroLaws R` (`feq x 0 = true ↔ x = 0`, `-(-x) = x`, `-0 = 0`),
         [R] real arithmetic (`ZeroLaws ℝ` holds, `eqv` is equality).
  Vocabulary (`look`, `Compat`, `NamesDistinct`, `fromJoints`, `hereOf`, `noJoint`, `Desc`,
  `ZeroLaws`): `Lemmas/UrdfLemmas.lean`.
-/
import OpwVerif.Lemmas.UrdfLemmas
import OpwVerif.Real
namespace Opw.C20
open Opw.UrdfL

section Generic
variable {R : Type} [OpwNum R]
open scoped GenericNum

/-- Where a generated description puts the parameters that can sit in more than one place
(2⁵ = 32 layouts; joints counted from 1 as in URDF, `jointOrigin` counts from 0):
`c2OnX`: `c2` is the x component of joint 3's origin, else its z component;
`bOnJ3`: the lateral offset `b` is the y component of joint 3's origin, else it is not written at all
(then `LayoutOk` asks for `b = 0`);
`c3OnJ4`: `c3` is written on joint 4, beside `-a2`, else on joint 5;
`c3OnX`: `c3` lies along x, else along y (on joint 4) or z (on joint 5);
`c4OnX`: `c4` is the x component of joint 6's origin, else its z component. -/
structure Layout where
  c2OnX : Bool
  bOnJ3 : Bool
  c3OnJ4 : Bool
  c3OnX : Bool
  c4OnX : Bool
deriving DecidableEq, Repr

/-- `<origin xyz>` of joint `k + 1` in layout `lay`: `c1` up joint 1, `a1` along x on joint 2, `c2`
and `b` on joint 3, `-a2` down joint 4 (the sign `populate` undoes), `c3` on joint 4 or 5, `c4` on joint 6 -/
def jointOrigin (u : UParams R) (lay : Layout) : Nat → R × R × R
  | 0 => (0, 0, u.c1)
  | 1 => (u.a1, 0, 0)
  | 2 =>
    let b' : R := if lay.bOnJ3 then u.b else 0
    if lay.c2OnX then (u.c2, b', 0) else (0, b', u.c2)
  | 3 =>
    if lay.c3OnJ4 then (if lay.c3OnX then (u.c3, 0, -u.a2) else (0, u.c3, -u.a2))
    else (0, 0, -u.a2)
  | 4 =>
    if lay.c3OnJ4 then (0, 0, 0) else if lay.c3OnX then (u.c3, 0, 0) else (0, 0, u.c3)
  | _ => if lay.c4OnX then (u.c4, 0, 0) else (0, 0, u.c4)

/-- joint `k + 1` of the generated description; sign and limits are the values a reader takes from
`<axis>` and `<limit>` -/
def jointFor (u : UParams R) (lay : Layout) (names : List String) (k : Nat) : JointData R :=
  let o := jointOrigin u lay k
  ⟨names.getD k "", o.1, o.2.1, o.2.2, u.signs.getD k 0, u.from_.getD k 0, u.to.getD k 0⟩

/-- the specification side of this file -/
def jointsFor (u : UParams R) (lay : Layout) (names : List String) : List (JointData R) :=
  (List.range 6).map (jointFor u lay names)

/-- the parameter sets a layout can carry so that `populate` can tell the components apart:
a non-zero `b` on joint 3 needs a non-zero `c2` beside it (`nonZero2` then finds `c2`); `b` that is not
written must be zero; `c3` on joint 4 needs `a2 ≠ 0` and `c3 ≠ 0` (two non-zero components are what
makes `populate` read `c3` there) -/
structure LayoutOk (u : UParams R) (lay : Layout) : Prop where
  c2_of_b : lay.bOnJ3 = true → u.b ≠ 0 → u.c2 ≠ 0
  b_zero : lay.bOnJ3 = false → u.b = 0
  c3_on_j4 : lay.c3OnJ4 = true → u.a2 ≠ 0 ∧ u.c3 ≠ 0

variable (L : ZeroLaws R) (u st : UParams R) (lay : Layout) (names : List String)
include L

theorem stepJ0 : populateStep 0 (jointFor u lay names 0) st = some { st with c1 := u.c1 } :=
  step0 (L.nz3_z _)

theorem stepJ1 : populateStep 1 (jointFor u lay names 1) st = some { st with a1 := u.a1 } :=
  step1 (L.nz3_x _)

theorem stepJ2 (ok : LayoutOk u lay) :
    populateStep 2 (jointFor u lay names 2) st = some { st with c2 := u.c2, b := u.b } := by
  obtain ⟨c2x, bj3, c3j4, c3x, c4x⟩ := lay
  have h1 := ok.c2_of_b
  have h2 := ok.b_zero
  simp only at h1 h2
  cases bj3
  · rw [h2 rfl]
    cases c2x
    · exact step2_single (L.nz3_z _)
    · exact step2_single (L.nz3_x _)
  · by_cases hb : u.b = 0
    · cases c2x
      · have : nonZero3 (0 : R) u.b u.c2 = some u.c2 := by rw [hb]; exact L.nz3_z _
        rw [step2_single (j := jointFor u ⟨false, true, c3j4, c3x, c4x⟩ names 2) this, hb]
      · have : nonZero3 u.c2 u.b (0 : R) = some u.c2 := by rw [hb]; exact L.nz3_x _
        rw [step2_single (j := jointFor u ⟨true, true, c3j4, c3x, c4x⟩ names 2) this, hb]
    · have hc := h1 rfl hb
      cases c2x
      · exact step2_multi (L.nz3_yz _ hb hc) (L.nz2_r _)
      · exact step2_multi (L.nz3_xy _ hc hb) (L.nz2_l _)

theorem stepJ3 (ok : LayoutOk u lay) (hst : st.c3 = 0) :
    populateStep 3 (jointFor u lay names 3) st =
      some { st with a2 := u.a2, c3 := if lay.c3OnJ4 then u.c3 else st.c3 } := by
  obtain ⟨c2x, bj3, c3j4, c3x, c4x⟩ := lay
  have h3 := ok.c3_on_j4
  simp only at h3
  -- joint 4 carries `-a2`, which `populate` negates again
  rw [← L.neg_neg u.a2]
  cases c3j4
  · exact step3_single (L.nz3_z _)
  · obtain ⟨ha, hc⟩ := h3 rfl
    have hst' : feq st.c3 0 = true := by rw [hst]; exact L.feq00
    cases c3x
    · exact step3_multi (L.nz3_yz _ hc (L.neg_ne ha)) hst' (L.nz2_r _)
    · exact step3_multi (L.nz3_xz _ hc (L.neg_ne ha)) hst' (L.nz2_l _)

theorem stepJ4 (hst : st.c3 = if lay.c3OnJ4 then u.c3 else 0) :
    populateStep 4 (jointFor u lay names 4) st = some { st with c3 := u.c3 } := by
  obtain ⟨c2x, bj3, c3j4, c3x, c4x⟩ := lay
  cases c3j4
  · replace hst : st.c3 = 0 := hst
    have hst' : feq st.c3 0 = true := by rw [hst]; exact L.feq00
    by_cases hc : u.c3 = 0
    · have hv : feq u.c3 0 = true := by rw [hc]; exact L.feq00
      have : populateStep 4 (jointFor u ⟨c2x, bj3, false, c3x, c4x⟩ names 4) st = some st := by
        cases c3x
        · exact step4_zero (v := u.c3) (L.nz3_z _) hv
        · exact step4_zero (v := u.c3) (L.nz3_x _) hv
      rw [this, hc, ← hst]
    · have hv := L.feq_ne hc
      cases c3x
      · exact step4_set (L.nz3_z _) hv hst'
      · exact step4_set (L.nz3_x _) hv hst'
  · replace hst : st.c3 = u.c3 := hst
    have : populateStep 4 (jointFor u ⟨c2x, bj3, true, c3x, c4x⟩ names 4) st = some st :=
      step4_zero (v := 0) (L.nz3_z _) L.feq00
    rw [this, ← hst]

theorem stepJ5 : populateStep 5 (jointFor u lay names 5) st = some { st with c4 := u.c4 } := by
  obtain ⟨c2x, bj3, c3j4, c3x, c4x⟩ := lay
  cases c4x
  · exact step5 (L.nz3_z _)
  · exact step5 (L.nz3_x _)

omit L in
theorem jointsFor_names (hlen : names.length = 6) :
    (jointsFor u lay names).map (·.name) = names := by
  obtain ⟨n0, n1, n2, n3, n4, n5, rfl⟩ := length_six hlen
  rfl

omit L in
theorem jointsFor_distinct (hlen : names.length = 6) (hnd : names.Nodup) :
    NamesDistinct (jointsFor u lay names) := by
  unfold NamesDistinct
  rw [jointsFor_names u lay names hlen]; exact hnd

omit L in
theorem look_jointsFor (hlen : names.length = 6) (hnd : names.Nodup) (k : Nat) (hk : k < 6) :
    look (jointsFor u lay names) (names.getD k "") = some (jointFor u lay names k) :=
  (look_eq_some_iff (jointsFor_distinct u lay names hlen hnd) _ _).2
    ⟨List.mem_map_of_mem (List.mem_range.2 hk), rfl⟩

/-- [Z] PROPERTY (round trip, strong form): `populate` on the generated joints returns `u` itself, in
every layout.  The signs must be in the `i8` range because they pass through `as i8`; `u.dof = 6`
because with six names the answer always has `dof = 6`. -/
theorem populate_roundtrip_eq (ok : LayoutOk u lay) (hlen : names.length = 6) (hnd : names.Nodup)
    (hs : u.signs.length = 6) (hf : u.from_.length = 6) (ht : u.to.length = 6)
    (hr : ∀ s ∈ u.signs, -128 ≤ s ∧ s ≤ 127) (hdof : u.dof = 6) :
    populate (jointsFor u lay names) names = some u := by
  have hl := look_jointsFor u lay names hlen hnd
  rw [populate_six (hl 5 (by decide)), List.take_of_length_le (Nat.le_of_eq hlen)]
  obtain ⟨n0, n1, n2, n3, n4, n5, rfl⟩ := length_six hlen
  rw [populateGo_cons (n := n0) (hl 0 (by decide)), stepJ0 L, Option.bind_some,
    populateGo_cons (n := n1) (hl 1 (by decide)), stepJ1 L, Option.bind_some,
    populateGo_cons (n := n2) (hl 2 (by decide)), stepJ2 L _ _ _ _ ok, Option.bind_some,
    populateGo_cons (n := n3) (hl 3 (by decide)), stepJ3 L _ _ _ _ ok rfl, Option.bind_some,
    populateGo_cons (n := n4) (hl 4 (by decide)), stepJ4 L _ _ _ _ rfl, Option.bind_some,
    populateGo_cons (n := n5) (hl 5 (by decide)), stepJ5 L, Option.bind_some]
  -- the geometry is `u`'s by the six steps; `simp only` flattens the nested record updates (left
  -- nested, projections through them are slow to unfold); the three lists remain, entry by entry
  simp only [populateGo, Option.map_some]
  obtain ⟨a1, a2, b, c1, c2, c3, c4, sg, fr, tt, dof⟩ := u
  obtain ⟨s0, s1, s2, s3, s4, s5, rfl⟩ := length_six hs
  obtain ⟨f0, f1, f2, f3, f4, f5, rfl⟩ := length_six hf
  obtain ⟨t0, t1, t2, t3, t4, t5, rfl⟩ := length_six ht
  cases hdof
  have w : [s0, s1, s2, s3, s4, s5].map wrapI8 = [s0, s1, s2, s3, s4, s5] :=
    (List.map_congr_left fun s h => wrapI8_id (hr s h).1 (hr s h).2).trans (List.map_id' _)
  show some (UParams.mk a1 a2 b c1 c2 c3 c4 ([s0, s1, s2, s3, s4, s5].map wrapI8) _ _ 6) = _
  rw [w]
  rfl

/-- [Z] the same read field by field; weaker than `populate_roundtrip_eq`, from which it follows with
`u' := u` -/
theorem populate_roundtrip (ok : LayoutOk u lay) (hlen : names.length = 6) (hnd : names.Nodup)
    (hs : u.signs.length = 6) (hf : u.from_.length = 6) (ht : u.to.length = 6)
    (hr : ∀ s ∈ u.signs, -128 ≤ s ∧ s ≤ 127) (hdof : u.dof = 6) :
    ∃ u', populate (jointsFor u lay names) names = some u' ∧
      u'.a1 = u.a1 ∧ u'.a2 = u.a2 ∧ u'.b = u.b ∧ u'.c1 = u.c1 ∧ u'.c2 = u.c2 ∧ u'.c3 = u.c3 ∧
      u'.c4 = u.c4 ∧ u'.signs = u.signs ∧ u'.from_ = u.from_ ∧ u'.to = u.to ∧ u'.dof = 6 :=
  ⟨u, populate_roundtrip_eq L u lay names ok hlen hnd hs hf ht hr hdof,
    rfl, rfl, rfl, rfl, rfl, rfl, rfl, rfl, rfl, rfl, hdof⟩

end Generic

section Indep
variable {R : Type} [OpwNum R]

/-- [G] without conflicts the map exists and answers every lookup with the first occurrence -/
theorem convertToMap_lookup {js : List (JointData R)} (hp : js.Pairwise Compat) :
    ∃ m, convertToMap [] js = some m ∧
      ∀ n, m.find? (fun j => j.name == n) = js.find? (fun j => j.name == n) := by
  obtain ⟨m, hm⟩ := convertToMap_isSome_nil hp
  exact ⟨m, hm, convertToMap_look hm⟩

/-- [G] whenever the map exists (conflict-free or not) lookups are first occurrences -/
theorem convertToMap_lookup_of_some {js m : List (JointData R)} (h : convertToMap [] js = some m)
    (n : String) : m.find? (fun j => j.name == n) = js.find? (fun j => j.name == n) :=
  convertToMap_look h n

/-- [G] `populate` depends on the map only through the lookup function -/
theorem populate_congr {m m' : List (JointData R)}
    (h : ∀ n, m.find? (fun j => j.name == n) = m'.find? (fun j => j.name == n))
    (names : List String) : populate m names = populate m' names :=
  UrdfL.populate_congr h names

/-- [G] declaration order is irrelevant -/
theorem perm_independent {js js' : List (JointData R)} (hp : js'.Perm js) (hd : NamesDistinct js)
    (names : List String) :
    (∀ n, js'.find? (fun j => j.name == n) = js.find? (fun j => j.name == n)) ∧
    fromJoints js' names = fromJoints js names := by
  have hl : ∀ n, look js' n = look js n := look_perm hp hd
  obtain ⟨m, hm⟩ := convertToMap_isSome_nil hd.pairwise_compat
  obtain ⟨m', hm'⟩ := convertToMap_isSome_nil (hd.perm hp).pairwise_compat
  exact ⟨hl, fromJoints_congr hm' hm hl names⟩

/-- [G] at `fromUrdf` level: two documents whose joints are permutations of each other -/
theorem perm_independent_fromUrdf {r r' : Xml R} {names : Option (List String)}
    {js js' : List (JointData R)} (hc : collectJoints names.isSome r = some js)
    (hc' : collectJoints names.isSome r' = some js') (hp : js'.Perm js) (hd : NamesDistinct js) :
    fromUrdf (some r') names = fromUrdf (some r) names := by
  rw [fromUrdf_eq_fromJoints hc, fromUrdf_eq_fromJoints hc']
  exact (perm_independent hp hd _).2

/-- [G] an identical second copy of the robot gives the same map -/
theorem second_copy_independent {js : List (JointData R)} (hp : js.Pairwise Compat)
    (hr : ∀ j ∈ js, j.eqv j = true) (names : List String) :
    convertToMap [] (js ++ js) = convertToMap [] js ∧
    fromJoints (js ++ js) names = fromJoints js names := by
  have h := convertToMap_second_copy hp hr
  exact ⟨h, by simp only [fromJoints, h]⟩

/-- [G] the whole pipeline after collection: where `populate` succeeds on a list with distinct names,
every declaration order of it, optionally followed by an identical second copy, gives the same result
(`hr`: the derived `PartialEq` is reflexive on the entries; true over `ℝ`, false of a NaN) -/
theorem extraction_of_populate {js0 js : List (JointData R)} {names : List String} {u : UParams R}
    (hd : NamesDistinct js0) (h0 : populate js0 names = some u) (hp : js.Perm js0)
    (hr : ∀ j ∈ js, j.eqv j = true) :
    fromJoints js names = .ok u ∧ fromJoints (js ++ js) names = .ok u := by
  obtain ⟨m, hm⟩ := convertToMap_isSome_nil hd.pairwise_compat
  have e1 : fromJoints js names = .ok u := by
    rw [(perm_independent hp hd names).2, fromJoints_eq_populate hm, h0]
  exact ⟨e1, by rw [(second_copy_independent (hd.perm hp).pairwise_compat hr names).2, e1]⟩

/-- [G] the collected list is the pre-order concatenation `here ++ inner ++ tail` -/
theorem collect_nesting (b : Bool) (c : Xml R) (rest : List (Xml R)) :
    collectList b (c :: rest) =
      (hereOf b c).bind fun h => (collectJoints b c).bind fun inner =>
        (collectList b rest).bind fun tl => some (h ++ inner ++ tl) :=
  collectList_cons b c rest

/-- [G] a non-joint element contributes exactly what its children contribute -/
theorem collect_nonjoint (b : Bool) {w : String} (hw : w ≠ "joint") (attrs : List (Attr R))
    (kids rest : List (Xml R)) :
    collectList b (Xml.elem w attrs kids :: rest) =
      (collectList b kids).bind fun inner => (collectList b rest).bind fun tl => some (inner ++ tl) := by
  rw [collectList_cons, collectJoints.eq_1, hereOf_nonjoint b (c := .elem w attrs kids) hw]
  rfl  -- `(some []).bind f` is `f []`, and `[] ++ inner` is `inner`

/-- [G] wrapping elements in a non-joint element changes nothing -/
theorem wrap_independent (b : Bool) {w : String} (hw : w ≠ "joint") (attrs : List (Attr R))
    (kids rest : List (Xml R)) :
    collectList b (Xml.elem w attrs kids :: rest) = collectList b (kids ++ rest) := by
  rw [collect_nonjoint b hw, collectList_append]

/-- [G] elements without joints inside collect nothing -/
theorem collect_noJoint (b : Bool) :
    (∀ l : List (Xml R), noJointL l = true → collectList b l = some []) ∧
    (∀ e : Xml R, noJoint e = true → collectJoints b e = some []) :=
  ⟨collectList_noJoint b, collectJoints_noJoint b⟩

/-- [G] inserting a joint-free sibling anywhere changes nothing -/
theorem sibling_independent (b : Bool) {s : Xml R} (hs : noJoint s = true) (l1 l2 : List (Xml R)) :
    collectList b (l1 ++ s :: l2) = collectList b (l1 ++ l2) := by
  have hs' : collectList b (s :: l2) = collectList b l2 := by
    cases s with
    | elem n attrs kids =>
      simp only [noJoint, Bool.and_eq_true, bne_iff_ne] at hs
      rw [collect_nonjoint b hs.1, collectList_noJoint b kids hs.2]
      cases collectList b l2 <;> rfl
  rw [collectList_append, collectList_append, hs']

end Indep

section Errors
variable {R : Type} [OpwNum R]

/-- [G] a second entry with the same name as, but different from, the first entry of that name -/
theorem conflict_is_error {l1 l2 l3 : List (JointData R)} {a b : JointData R}
    (hfirst : ∀ e ∈ l1, e.name ≠ a.name) (hn : a.name = b.name) (hne : a.eqv b = false)
    (names : List String) :
    convertToMap [] (l1 ++ a :: l2 ++ b :: l3) = none ∧
    fromJoints (l1 ++ a :: l2 ++ b :: l3) names = .error .xml := by
  have h := convertToMap_conflict (l2 := l2) (l3 := l3) hfirst hn hne
  exact ⟨h, by simp only [fromJoints, h]⟩

theorem conflict_is_error_fromUrdf {r : Xml R} {names : Option (List String)}
    {l1 l2 l3 : List (JointData R)} {a b : JointData R}
    (hc : collectJoints names.isSome r = some (l1 ++ a :: l2 ++ b :: l3))
    (hfirst : ∀ e ∈ l1, e.name ≠ a.name) (hn : a.name = b.name) (hne : a.eqv b = false) :
    fromUrdf (some r) names = .error .xml := by
  rw [fromUrdf_eq_fromJoints hc]
  exact (conflict_is_error hfirst hn hne _).2

/-- [G] one of the (first six) names has no entry -/
theorem missing_is_error {m : List (JointData R)} {names : List String} {n : String}
    (hn : n ∈ names.take 6) (hmiss : m.find? (fun j => j.name == n) = none) :
    populate m names = none :=
  populate_missing hn hmiss

theorem missing_is_error_fromJoints {js : List (JointData R)} {names : List String} {n : String}
    (hn : n ∈ names.take 6) (hmiss : ∀ j ∈ js, j.name ≠ n) :
    fromJoints js names = .error .xml ∨ fromJoints js names = .error .populate := by
  cases hm : convertToMap [] js with
  | none => exact .inl (by simp only [fromJoints, hm])
  | some m => exact .inr (fromJoints_missing hm hn hmiss)

theorem missing_is_error_fromUrdf {r : Xml R} {names : Option (List String)}
    {js m : List (JointData R)} {n : String}
    (hc : collectJoints names.isSome r = some js) (hm : convertToMap [] js = some m)
    (hn : n ∈ (names.getD defaultNames).take 6) (hmiss : ∀ j ∈ js, j.name ≠ n) :
    fromUrdf (some r) names = .error .populate := by
  rw [fromUrdf_eq_fromJoints hc]
  exact fromJoints_missing hm hn hmiss

/-- [G] parser error / no root element -/
theorem no_root_is_error (names : Option (List String)) :
    fromUrdf (none : Option (Xml R)) names = .error .xml := rfl

/-- [G] a `<joint>` anywhere below the root whose `<origin xyz=…>` has a non-numeric token or not
exactly three values (or no `xyz` at all) -/
theorem bad_origin_is_error {r j o : Xml R} {names : Option (List String)}
    (hd : Desc r j) (hj : j.name = "joint") (ho : j.child "origin" = some o)
    (hbad : o.attr "xyz" = none ∨
      ∃ a, o.attr "xyz" = some a ∧ (none ∈ a.tokens ∨ a.tokens.length ≠ 3)) :
    collectJoints names.isSome r = none ∧ fromUrdf (some r) names = .error .xml := by
  have := collectJoints_none_of_desc (b := names.isSome) hd hj
    (jointOf_none_of_origin ho (getXyz_none hbad))
  exact ⟨this, fromUrdf_collect_none this⟩

end Errors

section Joint
variable {R : Type} [OpwNum R]
open scoped GenericNum

/-- [G] no `<limit>` child, or limits that do not parse: unconstrained joint -/
theorem no_limit_unconstrained {b : Bool} {j : Xml R} {d : JointData R} (h : jointOf b j = some d)
    (hl : j.child "limit" = none ∨ ∃ l, j.child "limit" = some l ∧ getLimits l = none) :
    d.from_ = 0 ∧ d.to = 0 := by
  obtain ⟨_, _, _, _, -, -, rfl⟩ := jointOf_some h
  rcases hl with hl | ⟨l, hl, hbad⟩
  · simp only [hl, and_self]
  · simp only [hl, hbad, and_self]

/-- [G] limits that parse are returned -/
theorem limit_returned {b : Bool} {j l : Xml R} {d : JointData R} {lo hi : R}
    (h : jointOf b j = some d) (hl : j.child "limit" = some l)
    (hlim : getLimits l = some (lo, hi)) : d.from_ = lo ∧ d.to = hi := by
  obtain ⟨_, _, _, _, -, -, rfl⟩ := jointOf_some h
  simp only [hl, hlim, and_self]

/-- [G] exactly one non-zero axis value `v`: sign `-1` if `v < 0` else `1`; no axis child: `1` -/
theorem axis_sign {b : Bool} {j : Xml R} {d : JointData R} (h : jointOf b j = some d) :
    (j.child "axis" = none → d.sign = 1) ∧
    (∀ a at_ vals v, j.child "axis" = some a → a.attr "xyz" = some at_ →
      allSome at_.tokens = some vals → vals.filter (fun v => !(feq v 0)) = [v] →
      d.sign = if v < 0 then -1 else 1) := by
  obtain ⟨_, _, _, s, -, hs, rfl⟩ := jointOf_some h
  refine ⟨fun ha => ?_, fun a at_ vals v ha hat hv hnz => ?_⟩
  · rw [ha] at hs
    exact (Option.some.inj hs).symm
  · rw [ha] at hs
    exact Option.some.inj (hs.symm.trans (getAxisSign_single hat hv hnz))

/-- [Z] the three unit-axis shapes -/
theorem axis_sign_unit (L : ZeroLaws R) {a : Xml R} {at_ : Attr R} {v : R} (hv : v ≠ 0)
    (hat : a.attr "xyz" = some at_)
    (ht : at_.tokens = [some v, some 0, some 0] ∨ at_.tokens = [some 0, some v, some 0] ∨
          at_.tokens = [some 0, some 0, some v]) :
    getAxisSign a = some (if v < 0 then -1 else 1) := by
  rcases ht with ht | ht | ht
  all_goals
    refine getAxisSign_single hat (by rw [ht]; exact allSome_three _ _ _) ?_
    simp [List.filter, L.feq00, L.feq_ne hv]

/-- [G] a well-formed `xyz="x y z"` attribute is read as the triple -/
theorem getXyz_three {o : Xml R} {a : Attr R} {x y z : R} (ha : o.attr "xyz" = some a)
    (ht : a.tokens = [some x, some y, some z]) : getXyz o = some (x, y, z) :=
  getXyz_eq_some.2 ⟨a, ha, ht⟩

/-- [G] plain numeric `lower`/`upper` attributes are returned as parsed -/
theorem getLimits_plain {l : Xml R} {alo ahi : Attr R} {lo hi : R}
    (h1 : l.attr "lower" = some alo) (h2 : l.attr "upper" = some ahi)
    (r1 : alo.radInner = none) (r2 : ahi.radInner = none)
    (w1 : alo.whole = some lo) (w2 : ahi.whole = some hi) : getLimits l = some (lo, hi) := by
  unfold getLimits
  simp only [h1, h2, parseAngle, r1, r2, w1, w2]

/-- [G] a complete `<joint>` element (explicit names) yields exactly its name, origin, axis sign
and limits: the element-level link between a generated description and `jointsFor` -/
theorem jointOf_full {j o a l : Xml R} {an : Attr R} {x y z lo hi : R} {s : Int}
    (hn : j.attr "name" = some an) (ho : j.child "origin" = some o)
    (hx : getXyz o = some (x, y, z)) (ha : j.child "axis" = some a) (hs : getAxisSign a = some s)
    (hl : j.child "limit" = some l) (hlim : getLimits l = some (lo, hi)) :
    jointOf true j = some ⟨an.value, x, y, z, s, lo, hi⟩ := by
  unfold jointOf
  simp only [hn, ho, hx, ha, hs, hl, hlim, if_true]

end Joint

/-! Joint names: finite facts, by kernel evaluation of `preprocessJointName`. -/

theorem name_plain : preprocessJointName "joint1" = "joint1" := by decide +kernel
theorem name_upper_underscore : preprocessJointName "JOINT_2" = "joint2" := by decide +kernel
theorem name_macro_prefix : preprocessJointName "${prefix}joint_3" = "joint3" := by decide +kernel
theorem name_word_prefix : preprocessJointName "left_Joint-4" = "joint4" := by decide +kernel
theorem name_macro_upper_decorated : preprocessJointName "${prefix}JOINT_5!" = "joint5" := by decide +kernel
theorem name_default_fixed : defaultNames.map preprocessJointName = defaultNames := by decide +kernel

section Real

theorem zeroLaws_real : ZeroLaws ℝ where
  feq_zero x := by simp [feq_real]
  neg_neg x := neg_neg x
  neg_zero := by simp [lit0]

theorem opwZero_real : (@OfNat.ofNat ℝ 0 instOfNatOpw) = (0 : ℝ) := lit0

/-- [R] over `ℝ` the derived `PartialEq` is equality -/
theorem eqv_real (a b : JointData ℝ) : a.eqv b = true ↔ a = b := by
  cases a; cases b
  simp only [JointData.eqv, feq_real, Bool.and_eq_true, beq_iff_eq, decide_eq_true_eq, and_assoc,
    JointData.mk.injEq]

/-- [R] PROPERTY (round trip over `ℝ`, side conditions in ordinary real arithmetic) -/
theorem populate_roundtrip_real (u : UParams ℝ) (lay : Layout) (names : List String)
    (hlen : names.length = 6) (hnd : names.Nodup)
    (hs : u.signs.length = 6) (hf : u.from_.length = 6) (ht : u.to.length = 6)
    (hr : ∀ s ∈ u.signs, -128 ≤ s ∧ s ≤ 127) (hdof : u.dof = 6)
    (h1 : lay.bOnJ3 = true → u.b ≠ 0 → u.c2 ≠ 0) (h2 : lay.bOnJ3 = false → u.b = 0)
    (h3 : lay.c3OnJ4 = true → u.a2 ≠ 0 ∧ u.c3 ≠ 0) :
    populate (jointsFor u lay names) names = some u := by
  refine populate_roundtrip_eq zeroLaws_real u lay names ⟨?_, ?_, ?_⟩ hlen hnd hs hf ht hr hdof
  · rw [opwZero_real]; exact h1
  · rw [opwZero_real]; exact h2
  · rw [opwZero_real]; exact h3

/-- [R] `fromUrdf` level: a document whose collected joints are the generated ones in any order -/
theorem fromUrdf_roundtrip_real (u : UParams ℝ) (lay : Layout) (names : List String)
    (hlen : names.length = 6) (hnd : names.Nodup)
    (hs : u.signs.length = 6) (hf : u.from_.length = 6) (ht : u.to.length = 6)
    (hr : ∀ s ∈ u.signs, -128 ≤ s ∧ s ≤ 127) (hdof : u.dof = 6)
    (h1 : lay.bOnJ3 = true → u.b ≠ 0 → u.c2 ≠ 0) (h2 : lay.bOnJ3 = false → u.b = 0)
    (h3 : lay.c3OnJ4 = true → u.a2 ≠ 0 ∧ u.c3 ≠ 0)
    {r : Xml ℝ} {js : List (JointData ℝ)} (hc : collectJoints true r = some js)
    (hp : js.Perm (jointsFor u lay names) ∨
          ∃ js0, js = js0 ++ js0 ∧ js0.Perm (jointsFor u lay names)) :
    fromUrdf (some r) (some names) = .ok u := by
  have hd := jointsFor_distinct u lay names hlen hnd
  have h0 := populate_roundtrip_real u lay names hlen hnd hs hf ht hr hdof h1 h2 h3
  have refl : ∀ l : List (JointData ℝ), ∀ j ∈ l, j.eqv j = true := fun _ j _ => (eqv_real j j).2 rfl
  rw [fromUrdf_eq_fromJoints (names := some names) hc]
  rcases hp with hp | ⟨js0, rfl, hp⟩
  · exact (extraction_of_populate hd h0 hp (refl _)).1
  · exact (extraction_of_populate hd h0 hp (refl _)).2

/-- [R] over `ℝ` ANY two entries with the same name that differ make the map an error -/
theorem conflict_is_error_real {js : List (JointData ℝ)} {a b : JointData ℝ}
    (ha : a ∈ js) (hb : b ∈ js) (hn : a.name = b.name) (hne : a ≠ b) (names : List String) :
    convertToMap [] js = none ∧ fromJoints js names = .error .xml := by
  have h : convertToMap [] js = none := by
    cases hm : convertToMap [] js with
    | none => rfl
    | some m =>
      exact absurd (convertToMap_some_unique (fun a b => (eqv_real a b).1) hm ha hb hn) hne
  exact ⟨h, by simp only [fromJoints, h]⟩

/-- parameters of a small industrial arm, lateral offset `b` on joint 3, `c3` on joint 5 -/
noncomputable def exampleParams : UParams ℝ :=
  ⟨25 / 1000, -35 / 1000, 1 / 100, 400 / 1000, 560 / 1000, 515 / 1000, 80 / 1000,
   [1, 1, -1, 1, -1, 1], [-3, -2, -1, -3, -2, -6], [3, 2, 1, 3, 2, 6], 6⟩

def exampleLayout : Layout := ⟨false, true, false, true, true⟩

theorem defaultNames_nodup : defaultNames.Nodup := by decide +kernel

theorem exampleParams_roundtrip :
    populate (jointsFor exampleParams exampleLayout defaultNames) defaultNames = some exampleParams :=
  populate_roundtrip_real _ _ _ rfl defaultNames_nodup rfl rfl rfl (by decide) rfl
    (fun _ _ => by show (560 / 1000 : ℝ) ≠ 0; norm_num) (fun h => absurd h (by decide))
    (fun h => absurd h (by decide))

example : populate (jointsFor exampleParams exampleLayout defaultNames) defaultNames
    = some exampleParams :=
  exampleParams_roundtrip

/-- the same parameters with `c2` along x and `c3` on joint 4 (along y) -/
example : populate (jointsFor exampleParams ⟨true, true, true, false, false⟩ defaultNames)
    defaultNames = some exampleParams :=
  populate_roundtrip_real _ _ _ rfl defaultNames_nodup rfl rfl rfl (by decide) rfl
    (fun _ _ => by show (560 / 1000 : ℝ) ≠ 0; norm_num) (fun h => absurd h (by decide))
    (fun _ => ⟨by show (-35 / 1000 : ℝ) ≠ 0; norm_num, by show (515 / 1000 : ℝ) ≠ 0; norm_num⟩)

/-- the whole pipeline on the reversed declaration order followed by an identical second copy -/
example : fromJoints ((jointsFor exampleParams exampleLayout defaultNames).reverse ++
      (jointsFor exampleParams exampleLayout defaultNames).reverse) defaultNames
    = .ok exampleParams :=
  (extraction_of_populate (jointsFor_distinct _ _ _ rfl defaultNames_nodup) exampleParams_roundtrip
    (List.reverse_perm _) fun j _ => (eqv_real j j).2 rfl).2

end Real
end Opw.C20
