/-
  For C05 (wrist singularity), over ℝ: `fmod` and `rem_euclid` by `2π` as the model computes them;
  the axis of joint 6 of the reference chain in the frame of link 4 (`rot6_mulVec_ez`), from which
  `C05.axes_collinear` gets `|a4 × a6|² = sin² θ5`.
-/
import OpwVerif.Lemmas.Angle
import OpwVerif.Lemmas.Chain
namespace Opw.Wrist

theorem nfmod_real (x y : ℝ) :
    nfmod x y = if 0 ≤ x / y then x - y * ⌊x / y⌋ else x - y * ⌈x / y⌉ := rfl

theorem remEuclid_twoPi (v : ℝ) :
    remEuclid v (2 * (pi : ℝ)) = v - 2 * Real.pi * ⌊v / (2 * Real.pi)⌋ := by
  have h : (2 * (pi : ℝ)) = 2 * Real.pi := by rw [lit2, pi_def_real]
  rw [h, Angle.remEuclid_real v Real.two_pi_pos]

theorem rot6_mulVec_ez (q : J6 ℝ) :
    (rot6 q).mulVec V3.ez = (rot4 q).mulVec ⟨Real.sin q.j5, 0, Real.cos q.j5⟩ := by
  unfold rot6 rot5
  rw [M3.mulVec_mulVec, M3.mulVec_mulVec, M3.rz_mulVec, M3.ry_mulVec]
  simp [V3.ez, lit0, lit1]

end Opw.Wrist
