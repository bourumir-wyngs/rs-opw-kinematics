/-
  Plane geometry over ℝ for the inverse kinematics: a point as modulus and argument, what rotation and
  reflection do to the argument, `arccos` as the argument of a point of the upper half plane, and the
  triangle shoulder – elbow – wrist centre of a two-link arm, solved in both directions.
  Angles are compared modulo whole turns (`TurnEq`).

  The file declares into the namespace `Opw.IkComplete`, under which the completeness and the soundness
  files cite these lemmas.
-/
import OpwVerif.Lemmas.Angle
import OpwVerif.Lemmas.Fk

namespace Opw.IkComplete
open Opw Opw.Wrist

theorem turnEq_of_cos_sin {a b : ℝ} (hc : Real.cos a = Real.cos b) (hs : Real.sin a = Real.sin b) :
    TurnEq a b := by
  obtain ⟨k, hk⟩ := Real.Angle.angle_eq_iff_two_pi_dvd_sub.mp (Real.Angle.cos_sin_inj hc hs)
  exact ⟨k, eq_add_of_sub_eq' hk⟩

theorem sqrt_sumsq_pos {x y : ℝ} (h : x ≠ 0 ∨ y ≠ 0) : 0 < Real.sqrt (x * x + y * y) := by
  rw [← norm_mk, norm_pos_iff]
  exact fun h0 => h.elim (· (congrArg Complex.re h0)) (· (congrArg Complex.im h0))

theorem arg_polar {r : ℝ} (hr : 0 < r) (t : ℝ) :
    TurnEq (Complex.arg ⟨r * Real.cos t, r * Real.sin t⟩) t := by
  have hn : Real.sqrt (r * Real.cos t * (r * Real.cos t) + r * Real.sin t * (r * Real.sin t)) = r := by
    rw [mul_mul_mul_comm, mul_mul_mul_comm r (Real.sin t), ← mul_add, ← sq (Real.cos t),
      ← sq (Real.sin t), Real.cos_sq_add_sin_sq, mul_one, Real.sqrt_mul_self hr.le]
  have hx := re_eq_norm_cos (r * Real.cos t) (r * Real.sin t)
  have hy := im_eq_norm_sin (r * Real.cos t) (r * Real.sin t)
  rw [hn] at hx hy
  exact turnEq_of_cos_sin (mul_left_cancel₀ hr.ne' hx).symm (mul_left_cancel₀ hr.ne' hy).symm

/-- a rotation of the plane keeps the squared length -/
theorem rot_sumsq (x y t : ℝ) :
    (x * Real.cos t - y * Real.sin t) * (x * Real.cos t - y * Real.sin t) +
      (x * Real.sin t + y * Real.cos t) * (x * Real.sin t + y * Real.cos t) = x * x + y * y := by
  linear_combination (x * x + y * y) * Real.sin_sq_add_cos_sq t

theorem arg_rot {x y : ℝ} (h : x ≠ 0 ∨ y ≠ 0) (t : ℝ) :
    TurnEq (Complex.arg ⟨x * Real.cos t - y * Real.sin t, x * Real.sin t + y * Real.cos t⟩)
      (Complex.arg ⟨x, y⟩ + t) := by
  obtain ⟨e1, e2⟩ := rot_polar (re_eq_norm_cos x y) (im_eq_norm_sin x y) t
  rw [e1, e2]
  exact arg_polar (sqrt_sumsq_pos h) _

theorem arg_reflect {x y : ℝ} (h : x ≠ 0 ∨ y ≠ 0) :
    TurnEq (Complex.arg ⟨-x, y⟩) (Real.pi - Complex.arg ⟨x, y⟩) := by
  have := arg_polar (sqrt_sumsq_pos h) (Real.pi - Complex.arg ⟨x, y⟩)
  rwa [Real.cos_pi_sub, Real.sin_pi_sub, mul_neg, ← re_eq_norm_cos, ← im_eq_norm_sin] at this

theorem arg_mirror (x y : ℝ) : TurnEq (Complex.arg ⟨x, -y⟩) (-Complex.arg ⟨x, y⟩) := by
  have h : Complex.arg ⟨x, -y⟩ = _ := Complex.arg_conj ⟨x, y⟩
  split_ifs at h with hπ
  · -- on the negative real axis both arguments are `π`, a whole turn from `−π`
    exact ⟨1, by rw [h, hπ, Int.cast_one]; ring⟩
  · exact .of_eq h

theorem arccos_cos_of_sin_pos {x : ℝ} (h : 0 < Real.sin x) : TurnEq (Real.arccos (Real.cos x)) x := by
  apply turnEq_of_cos_sin
  · exact Real.cos_arccos (Real.neg_one_le_cos x) (Real.cos_le_one x)
  · rw [Real.sin_arccos, ← Real.sin_sq x, Real.sqrt_sq h.le]

theorem neg_arccos_cos_of_sin_neg {x : ℝ} (h : Real.sin x < 0) :
    TurnEq (-Real.arccos (Real.cos x)) x := by
  have := (arccos_cos_of_sin_pos (x := -x) (by rw [Real.sin_neg]; exact neg_pos.mpr h)).neg
  rwa [Real.cos_neg, neg_neg] at this

theorem div_sqrt_sumsq_mem (u v : ℝ) :
    -1 ≤ u / Real.sqrt (u * u + v * v) ∧ u / Real.sqrt (u * u + v * v) ≤ 1 := by
  have h := Complex.abs_re_div_norm_le_one ⟨u, v⟩
  rw [norm_mk] at h
  exact abs_le.mp h

/-- a point of the closed upper half plane in polar form, the angle by `arccos` (also for `0`) -/
theorem polar_arccos (u : ℝ) {v : ℝ} (hv : 0 ≤ v) :
    u = Real.sqrt (u * u + v * v) * Real.cos (Real.arccos (u / Real.sqrt (u * u + v * v))) ∧
      v = Real.sqrt (u * u + v * v) * Real.sin (Real.arccos (u / Real.sqrt (u * u + v * v))) := by
  rcases eq_or_ne (⟨u, v⟩ : ℂ) 0 with h0 | h0
  · obtain ⟨rfl, rfl⟩ : u = 0 ∧ v = 0 := Complex.ext_iff.mp h0
    rw [mul_zero, add_zero, Real.sqrt_zero, zero_mul, zero_mul]
    exact ⟨rfl, rfl⟩
  · -- there the `arccos` is the argument
    have h := Complex.arg_of_im_nonneg_of_ne_zero (z := ⟨u, v⟩) hv h0
    rw [norm_mk] at h
    rw [← h]
    exact ⟨re_eq_norm_cos u v, im_eq_norm_sin u v⟩

theorem arccos_div_norm_of_im_pos {u v : ℝ} (hv : 0 < v) :
    TurnEq (Real.arccos (u / Real.sqrt (u * u + v * v))) (Complex.arg ⟨u, v⟩) := by
  have h := Complex.arg_of_im_pos (z := ⟨u, v⟩) hv
  rw [norm_mk] at h
  exact .of_eq h.symm

theorem neg_arccos_div_norm_of_im_neg {u v : ℝ} (hv : v < 0) :
    TurnEq (-Real.arccos (u / Real.sqrt (u * u + v * v))) (Complex.arg ⟨u, v⟩) := by
  have h := Complex.arg_of_im_neg (z := ⟨u, v⟩) hv
  rw [norm_mk] at h
  exact .of_eq h.symm

/-! ### The two-link arm: links `c`, `κ`, elbow angle `B`, distance `√s` from shoulder to wrist centre -/

/-- the cosine of the elbow angle `B` by the law of cosines (argument of the elbow `acos`) -/
noncomputable def elbowRatio (c κ s : ℝ) : ℝ := (s - c * c - κ * κ) / (2 * c * κ)

/-- the cosine of the angle `A` at the shoulder between upper arm and wrist centre (argument of the
shoulder `acos`) -/
noncomputable def shoulderRatio (c κ s : ℝ) : ℝ := (s + c * c - κ * κ) / (2 * Real.sqrt s * c)

theorem law_of_cosines (c κ B : ℝ) :
    (c + κ * Real.cos B) * (c + κ * Real.cos B) + κ * Real.sin B * (κ * Real.sin B) =
      c * c + κ * κ + 2 * c * κ * Real.cos B := by
  linear_combination κ * κ * Real.sin_sq_add_cos_sq B

/-- the law of cosines solved for the cosine: `x` is the elbow ratio of `s` iff
`s = c² + κ² + 2cκ·x` -/
theorem elbowRatio_eq_iff {c κ : ℝ} (hc : 0 < c) (hk : 0 < κ) (s x : ℝ) :
    elbowRatio c κ s = x ↔ s = c * c + κ * κ + 2 * c * κ * x := by
  rw [elbowRatio, div_eq_iff (mul_ne_zero (mul_ne_zero two_ne_zero hc.ne') hk.ne'), sub_sub,
    sub_eq_iff_eq_add, mul_comm x, add_comm]

/-- for an elbow angle `B` whose cosine is the elbow ratio, the point `c + κ e^{iB}` has modulus `√s`
(law of cosines) and the shoulder ratio is its real part over `√s` (also for `s = 0`) -/
theorem elbow_triangle {c κ s B : ℝ} (hc : 0 < c) (hk : 0 < κ)
    (hB : Real.cos B = elbowRatio c κ s) :
    (c + κ * Real.cos B) * (c + κ * Real.cos B) + κ * Real.sin B * (κ * Real.sin B) = s ∧
      shoulderRatio c κ s = (c + κ * Real.cos B) / Real.sqrt s := by
  have hs := (elbowRatio_eq_iff hc hk s _).mp hB.symm
  constructor
  · rw [law_of_cosines, ← hs]
  · rw [shoulderRatio, mul_right_comm, ← div_div]
    congr 1
    rw [div_eq_iff (mul_ne_zero two_ne_zero hc.ne')]
    linear_combination hs

/-- the elbow ratio in `[−1, 1]` makes the triangle close: with `B = arccos` of the elbow ratio and
`A = arccos` of the shoulder ratio, `c + κ e^{iB} = √s e^{iA}` (also when `s = 0`) -/
theorem elbow_polar {c κ s : ℝ} (hc : 0 < c) (hk : 0 < κ)
    (hb1 : -1 ≤ elbowRatio c κ s) (hb2 : elbowRatio c κ s ≤ 1) :
    c + κ * Real.cos (Real.arccos (elbowRatio c κ s)) =
        Real.sqrt s * Real.cos (Real.arccos (shoulderRatio c κ s)) ∧
      κ * Real.sin (Real.arccos (elbowRatio c κ s)) =
        Real.sqrt s * Real.sin (Real.arccos (shoulderRatio c κ s)) := by
  obtain ⟨hs, hr⟩ := elbow_triangle hc hk (Real.cos_arccos hb1 hb2)
  have h := polar_arccos (c + κ * Real.cos (Real.arccos (elbowRatio c κ s)))
    (mul_nonneg hk.le (Real.sin_nonneg_of_nonneg_of_le_pi (Real.arccos_nonneg _)
      (Real.arccos_le_pi (elbowRatio c κ s))))
  rwa [hs, ← hr] at h

/-- no separate condition on the shoulder `acos`: with the elbow ratio in `[−1, 1]` its argument
lies in `[−1, 1]` too -/
theorem shoulder_ratio_mem {c κ s : ℝ} (hc : 0 < c) (hk : 0 < κ)
    (hb1 : -1 ≤ elbowRatio c κ s) (hb2 : elbowRatio c κ s ≤ 1) :
    -1 ≤ shoulderRatio c κ s ∧ shoulderRatio c κ s ≤ 1 := by
  obtain ⟨hs, hr⟩ := elbow_triangle hc hk (Real.cos_arccos hb1 hb2)
  have h := div_sqrt_sumsq_mem (c + κ * Real.cos (Real.arccos (elbowRatio c κ s)))
    (κ * Real.sin (Real.arccos (elbowRatio c κ s)))
  rwa [hs, ← hr] at h

/-- the wrist centre of a two-link arm whose upper arm is turned by `t`: the point `c + κ e^{iB}`
turned by `t` -/
theorem two_link_rot (c κ t B : ℝ) :
    c * Real.cos t + κ * Real.cos (t + B) =
        (c + κ * Real.cos B) * Real.cos t - κ * Real.sin B * Real.sin t ∧
      c * Real.sin t + κ * Real.sin (t + B) =
        (c + κ * Real.cos B) * Real.sin t + κ * Real.sin B * Real.cos t := by
  rw [Real.cos_add, Real.sin_add]
  constructor <;> ring

/-- two links `c`, `κ` with elbow angle `B`; if the elbow–wrist vector in the frame of the upper
arm is `S e^{iA}`, then turning the upper arm to `t − A` puts the wrist at `S e^{it}` -/
theorem two_link {c κ S A B : ℝ} (h1 : c + κ * Real.cos B = S * Real.cos A)
    (h2 : κ * Real.sin B = S * Real.sin A) (t : ℝ) :
    c * Real.cos (t - A) + κ * Real.cos (t - A + B) = S * Real.cos t ∧
      c * Real.sin (t - A) + κ * Real.sin (t - A + B) = S * Real.sin t := by
  obtain ⟨r1, r2⟩ := rot_polar h1 h2 (t - A)
  rw [add_sub_cancel] at r1 r2
  obtain ⟨e1, e2⟩ := two_link_rot c κ (t - A) B
  exact ⟨e1.trans r1, e2.trans r2⟩

/-- the triangle solved forwards: for a target `√s e^{it}` within reach, both elbow configurations
(`t2 = θ2`, `t23 = θ2 + φ`) reach it -/
theorem planar_sound {c κ s : ℝ} (hc : 0 < c) (hk : 0 < κ)
    (hb1 : -1 ≤ elbowRatio c κ s) (hb2 : elbowRatio c κ s ≤ 1)
    (t : ℝ) {A B t2 t23 : ℝ} (hA : A = Real.arccos (shoulderRatio c κ s))
    (hB : B = Real.arccos (elbowRatio c κ s))
    (h : t2 = t - A ∧ t23 = t - A + B ∨ t2 = t + A ∧ t23 = t + A - B) :
    c * Real.cos t2 + κ * Real.cos t23 = Real.sqrt s * Real.cos t ∧
      c * Real.sin t2 + κ * Real.sin t23 = Real.sqrt s * Real.sin t := by
  obtain ⟨e1, e2⟩ := elbow_polar hc hk hb1 hb2
  rw [← hA, ← hB] at e1 e2
  rcases h with ⟨rfl, rfl⟩ | ⟨rfl, rfl⟩
  · exact two_link e1 e2 t
  · -- the mirror image `c + κ e^{−iB} = √s e^{−iA}`
    have := two_link (A := -A) (B := -B) (by rw [Real.cos_neg, Real.cos_neg]; exact e1)
      (by rw [Real.sin_neg, Real.sin_neg, mul_neg, mul_neg, e2]) t
    rwa [sub_neg_eq_add, ← sub_eq_add_neg] at this

/-- the triangle solved backwards: if `√s` is the modulus of `c + κ e^{iφ}`, the two `arccos` of the
solver are `φ` and the argument of that point, up to the sign of `sin φ` -/
theorem planar_complete {c κ s φ : ℝ} (hc : 0 < c) (hk : 0 < κ)
    (hs : s = (c + κ * Real.cos φ) * (c + κ * Real.cos φ) + κ * Real.sin φ * (κ * Real.sin φ)) :
    (0 < Real.sin φ → TurnEq (Real.arccos (elbowRatio c κ s)) φ ∧
      TurnEq (Real.arccos (shoulderRatio c κ s))
        (Complex.arg ⟨c + κ * Real.cos φ, κ * Real.sin φ⟩)) ∧
    (Real.sin φ < 0 → TurnEq (-Real.arccos (elbowRatio c κ s)) φ ∧
      TurnEq (-Real.arccos (shoulderRatio c κ s))
        (Complex.arg ⟨c + κ * Real.cos φ, κ * Real.sin φ⟩)) := by
  have hB : Real.cos φ = elbowRatio c κ s :=
    ((elbowRatio_eq_iff hc hk s _).mpr (hs.trans (law_of_cosines c κ φ))).symm
  rw [(elbow_triangle hc hk hB).2, ← hB, hs]
  exact ⟨fun h => ⟨arccos_cos_of_sin_pos h, arccos_div_norm_of_im_pos (mul_pos hk h)⟩,
    fun h => ⟨neg_arccos_cos_of_sin_neg h, neg_arccos_div_norm_of_im_neg (mul_neg_of_pos_of_neg hk h)⟩⟩

end Opw.IkComplete
