/-
  The `let` chain of `thetaCandidates`, named piece by piece, for any number type.
  `thetaCandidates_eq` is the one place where `thetaCandidates` is unfolded.
  The names are the `let`s of `inverse_intern` (`kinematics_impl.rs`): `nx1`, `tmp9`, `tmp11` …
  `tmp16` as they are, `c ↦ wc`, `theta1_i ↦ th1i` … `theta3_iv ↦ th3iv`, `s1_2`/`s2_2 ↦ s1sq`/`s2sq`,
  `kappa_2 ↦ kappa2`.

  The file declares into the namespace `Opw.IkComplete`: the property files of C02 cite `wc`, `nx1`,
  `th1i` … `cand` under these names.
-/
import OpwVerif.Kin

namespace Opw.IkComplete

variable {R : Type} [OpwNum R]

/-- wrist centre `c = t − c4·(R·e_z)` -/
def wc (p : Params R) (pose : Iso R) : V3 R :=
  let m := pose.q.toMat
  let zv := m.mulVec V3.ez
  pose.t.sub ⟨p.c4 * zv.x, p.c4 * zv.y, p.c4 * zv.z⟩

def nx1 (p : Params R) (c : V3 R) : R := nsqrt ((c.x * c.x + c.y * c.y) - p.b * p.b) - p.a1
def th1i (p : Params R) (c : V3 R) : R := natan2 c.y c.x - natan2 p.b (nx1 p c + p.a1)
def th1ii (p : Params R) (c : V3 R) : R := natan2 c.y c.x + natan2 p.b (nx1 p c + p.a1) - pi
def s1sq (p : Params R) (c : V3 R) : R := nx1 p c * nx1 p c + (c.z - p.c1) * (c.z - p.c1)
def s2sq (p : Params R) (c : V3 R) : R :=
  (nx1 p c + 2 * p.a1) * (nx1 p c + 2 * p.a1) + (c.z - p.c1) * (c.z - p.c1)
def kappa2 (p : Params R) : R := p.a2 * p.a2 + p.c3 * p.c3
def tmp13 (p : Params R) (c : V3 R) : R :=
  nacos ((s1sq p c + p.c2 * p.c2 - kappa2 p) / (2 * nsqrt (s1sq p c) * p.c2))
def tmp14 (p : Params R) (c : V3 R) : R := natan2 (nx1 p c) (c.z - p.c1)
def th2i (p : Params R) (c : V3 R) : R := -tmp13 p c + tmp14 p c
def th2ii (p : Params R) (c : V3 R) : R := tmp13 p c + tmp14 p c
def tmp15 (p : Params R) (c : V3 R) : R :=
  nacos ((s2sq p c + p.c2 * p.c2 - kappa2 p) / (2 * nsqrt (s2sq p c) * p.c2))
def tmp16 (p : Params R) (c : V3 R) : R := natan2 (nx1 p c + 2 * p.a1) (c.z - p.c1)
def th2iii (p : Params R) (c : V3 R) : R := -tmp15 p c - tmp16 p c
def th2iv (p : Params R) (c : V3 R) : R := tmp15 p c - tmp16 p c
def tmp9 (p : Params R) : R := 2 * p.c2 * nsqrt (kappa2 p)
def tmp11 (p : Params R) (c : V3 R) : R := nacos ((s1sq p c - p.c2 * p.c2 - kappa2 p) / tmp9 p)
def tmp12 (p : Params R) (c : V3 R) : R := nacos ((s2sq p c - p.c2 * p.c2 - kappa2 p) / tmp9 p)
def th3i (p : Params R) (c : V3 R) : R := tmp11 p c - natan2 p.a2 p.c3
def th3ii (p : Params R) (c : V3 R) : R := -tmp11 p c - natan2 p.a2 p.c3
def th3iii (p : Params R) (c : V3 R) : R := tmp12 p c - natan2 p.a2 p.c3
def th3iv (p : Params R) (c : V3 R) : R := -tmp12 p c - natan2 p.a2 p.c3

/-- one wrist solution for a given `(sin θ1, cos θ1, θ2 + θ3)` -/
def wristSol (m : M3 R) (sin1 cos1 t23 : R) : R × R × R :=
  let s23 := nsin t23
  let c23 := ncos t23
  let mm := m.m02 * s23 * cos1 + m.m12 * s23 * sin1 + m.m22 * c23
  let th5 := natan2 (nsqrt (1 - mm * mm)) mm
  let th4y := m.m12 * cos1 - m.m02 * sin1
  let th4x := m.m02 * c23 * cos1 + m.m12 * c23 * sin1 - m.m22 * s23
  let th4 := natan2 th4y th4x
  let th6y := m.m01 * s23 * cos1 + m.m11 * s23 * sin1 + m.m21 * c23
  let th6x := -m.m00 * s23 * cos1 - m.m10 * s23 * sin1 - m.m20 * c23
  let th6 := natan2 th6y th6x
  (th4, th5, th6)

/-- the raw candidate built from `(θ1, θ2, θ3)` -/
def cand (m : M3 R) (t1 t2 t3 : R) : J6 R :=
  let w := wristSol m (nsin t1) (ncos t1) (t2 + t3)
  ⟨t1, t2, t3, w.1, w.2.1, w.2.2⟩

/-- the wrist-flipped twin as the code forms it -/
def flipG (t : J6 R) : J6 R := ⟨t.j1, t.j2, t.j3, t.j4 + pi, -t.j5, t.j6 - pi⟩

theorem thetaCandidates_eq (p : Params R) (pose : Iso R) :
    thetaCandidates p pose =
      [cand pose.q.toMat (th1i p (wc p pose)) (th2i p (wc p pose)) (th3i p (wc p pose)),
       cand pose.q.toMat (th1i p (wc p pose)) (th2ii p (wc p pose)) (th3ii p (wc p pose)),
       cand pose.q.toMat (th1ii p (wc p pose)) (th2iii p (wc p pose)) (th3iii p (wc p pose)),
       cand pose.q.toMat (th1ii p (wc p pose)) (th2iv p (wc p pose)) (th3iv p (wc p pose)),
       flipG (cand pose.q.toMat (th1i p (wc p pose)) (th2i p (wc p pose)) (th3i p (wc p pose))),
       flipG (cand pose.q.toMat (th1i p (wc p pose)) (th2ii p (wc p pose)) (th3ii p (wc p pose))),
       flipG (cand pose.q.toMat (th1ii p (wc p pose)) (th2iii p (wc p pose)) (th3iii p (wc p pose))),
       flipG (cand pose.q.toMat (th1ii p (wc p pose)) (th2iv p (wc p pose)) (th3iv p (wc p pose)))] := by
  -- both sides unfold to the same term; `rfl` alone finds that out forty times slower
  dsimp only [thetaCandidates, cand, flipG, wristSol, th1i, th1ii, th2i, th2ii, th2iii, th2iv, th3i,
    th3ii, th3iii, th3iv, tmp9, tmp11, tmp12, tmp13, tmp14, tmp15, tmp16, s1sq, s2sq, kappa2, nx1, wc]

/-- the four arm solutions: front shoulder with elbow up and down, back shoulder with elbow up and
down, each with its first wrist solution -/
def armRows (p : Params R) (pose : Iso R) : List (J6 R) :=
  [cand pose.q.toMat (th1i p (wc p pose)) (th2i p (wc p pose)) (th3i p (wc p pose)),
   cand pose.q.toMat (th1i p (wc p pose)) (th2ii p (wc p pose)) (th3ii p (wc p pose)),
   cand pose.q.toMat (th1ii p (wc p pose)) (th2iii p (wc p pose)) (th3iii p (wc p pose)),
   cand pose.q.toMat (th1ii p (wc p pose)) (th2iv p (wc p pose)) (th3iv p (wc p pose))]

theorem thetaCandidates_eq_armRows (p : Params R) (pose : Iso R) :
    thetaCandidates p pose = armRows p pose ++ (armRows p pose).map flipG := by
  rw [thetaCandidates_eq]; rfl

theorem mem_thetaCandidates {p : Params R} {pose : Iso R} {t : J6 R} (h : t ∈ thetaCandidates p pose) :
    ∃ t1 t2 t3, (t1 = th1i p (wc p pose) ∨ t1 = th1ii p (wc p pose)) ∧
      (t = cand pose.q.toMat t1 t2 t3 ∨ t = flipG (cand pose.q.toMat t1 t2 t3)) := by
  have hrow : ∀ c ∈ armRows p pose, ∃ t1 t2 t3,
      (t1 = th1i p (wc p pose) ∨ t1 = th1ii p (wc p pose)) ∧ c = cand pose.q.toMat t1 t2 t3 := by
    intro c hc
    simp only [armRows, List.mem_cons, List.not_mem_nil, or_false] at hc
    rcases hc with rfl | rfl | rfl | rfl
    · exact ⟨_, _, _, .inl rfl, rfl⟩
    · exact ⟨_, _, _, .inl rfl, rfl⟩
    · exact ⟨_, _, _, .inr rfl, rfl⟩
    · exact ⟨_, _, _, .inr rfl, rfl⟩
  rw [thetaCandidates_eq_armRows, List.mem_append, List.mem_map] at h
  rcases h with h | ⟨c, hc, rfl⟩
  · obtain ⟨t1, t2, t3, h1, rfl⟩ := hrow t h
    exact ⟨t1, t2, t3, h1, .inl rfl⟩
  · obtain ⟨t1, t2, t3, h1, rfl⟩ := hrow c hc
    exact ⟨t1, t2, t3, h1, .inr rfl⟩

end Opw.IkComplete
