/-
  `normalize_near`, `sort_by_closeness` and the answers of `inverse_continuing` over ℝ (a few lemmas on the
  shift loop hold for any `R`): what C04 states, and what C01c, C02c, C04b, C06b, C08b use of it.  `normalize_near` is read through the normalisation loops
  (`normPi`): the two distance comparisons of `adjust` are `normPiF 1` on the difference to `prev`
  (`adj12_eq`), so that
  `normPiF_abs_le` does the work.  The vocabulary of the statements comes first, the example robot of
  the non-vacuity examples of C04 and C08b last.
-/
import OpwVerif.Lemmas.Limits
import OpwVerif.Lemmas.NormPi
import OpwVerif.Lemmas.Sound
import OpwVerif.Lemmas.Candidates

namespace Opw.Nearest
open Real Angle

/-- every component within `c` of `0`: the hypothesis on sign corrections (`c = 1`), offsets and
previous angles in `C04.inverseContinuing_nearest`, C04b and the IK round-trip lemmas -/
def absLe (a : J6 ℝ) (c : ℝ) : Prop :=
  |a.j1| ≤ c ∧ |a.j2| ≤ c ∧ |a.j3| ≤ c ∧ |a.j4| ≤ c ∧ |a.j5| ≤ c ∧ |a.j6| ≤ c

/-- componentwise within `c` of each other: with `c = π`, "every angle of `a` is the representative
nearest to the corresponding angle of `b`" (`C04.normalizeNear_is_nearest`) -/
def within (a b : J6 ℝ) (c : ℝ) : Prop :=
  |a.j1 - b.j1| ≤ c ∧ |a.j2 - b.j2| ≤ c ∧ |a.j3 - b.j3| ≤ c ∧ |a.j4 - b.j4| ≤ c ∧ |a.j5 - b.j5| ≤ c ∧
    |a.j6 - b.j6| ≤ c

/-- `x` is within `n` half turns of `0`; bounds of sums and differences of `atan2`/`acos` values are
added up in `n` (`B_add`, `B_sub`), which is how the raw candidates are bounded below -/
def B (n : ℕ) (x : ℝ) : Prop := |x| ≤ n * Real.pi

/-- the list `inverse_continuing` builds before filtering: shift loop, `normalize_near`, sort -/
def sortedUnfiltered {R : Type} [OpwNum R] (k : Opw R) (pose : Iso R) (prev : J6 R) : List (J6 R) :=
  k.sortByCloseness ((shiftLoop k pose (k.reference prev) shifts []).map
    (fun s => s.normalizeNear (k.reference prev))) (k.reference prev)

/-- `f64::signum` over ℝ -/
theorem signum_nonneg {x : ℝ} (h : 0 ≤ x) : (OpwNum.signum x : ℝ) = 1 := by
  simp [OpwNum.signum, h]
theorem signum_neg {x : ℝ} (h : x < 0) : (OpwNum.signum x : ℝ) = -1 := by
  simp [OpwNum.signum, not_le.mpr h]

/-- the first two `if`s of `adjust` -/
noncomputable def adj12 (now prev : ℝ) : ℝ :=
  let n1 := if |now - prev| > |now - 2 * Real.pi - prev| then now - 2 * Real.pi else now
  if |n1 - prev| > |n1 + 2 * Real.pi - prev| then n1 + 2 * Real.pi else n1

/-- the third `if` of `adjust`: the condition under which the value is negated -/
def flips (n2 prev : ℝ) : Prop :=
  |n2| = Real.pi ∧ ¬ ((OpwNum.signum prev : ℝ) = OpwNum.signum n2)

theorem adjustNear_eq (now prev : ℝ) :
    adjustNear now prev = (open Classical in if flips (adj12 now prev) prev then -adj12 now prev else adj12 now prev) := by
  unfold adjustNear adj12 flips
  simp only [twoPi_real, nabs_real, feq_real, pi_def_real, Bool.and_eq_true, decide_eq_true_eq,
    Bool.not_eq_eq_eq_not, Bool.not_true, decide_eq_false_iff_not]

/-- the two comparisons of distances are one round of each normalisation loop (`normPiF 1`), run on
the difference to `prev` -/
theorem adj12_eq (now prev : ℝ) : adj12 now prev = prev + normPiF 1 (now - prev) := by
  have down : ∀ v : ℝ, (if |v - prev| > |v - 2 * π - prev| then v - 2 * π else v) =
      prev + loopDown 1 (v - prev) := fun v => by
    -- `prev +` goes into the branches and cancels; then the two conditions are the same
    rw [loopDown_succ, loopDown_zero, apply_ite (prev + ·), ← add_sub_assoc, add_sub_cancel]
    simp only [gt_iff_lt, sub_right_comm v, abs_sub_turn_lt_iff]
  have up : ∀ v : ℝ, (if |v - prev| > |v + 2 * π - prev| then v + 2 * π else v) =
      prev + loopUp 1 (v - prev) := fun v => by
    rw [loopUp_succ, loopUp_zero, apply_ite (prev + ·), ← add_assoc, add_sub_cancel]
    simp only [gt_iff_lt, add_sub_right_comm v, abs_add_turn_lt_iff]
  unfold adj12 normPiF
  dsimp only
  rw [down, up, add_sub_cancel_left]

theorem adj12_turn (now prev : ℝ) : ∃ k : ℤ, adj12 now prev = now + 2 * π * k :=
  (normPiF_turn 1 (now - prev)).imp fun k hk => by rw [adj12_eq, hk, ← add_assoc, add_sub_cancel]

theorem adj12_dist (now prev c : ℝ) (hc : π ≤ c) (h : |now - prev| ≤ c + 2 * π) :
    |adj12 now prev - prev| ≤ c := by
  rw [adj12_eq, add_sub_cancel_left]
  exact normPiF_abs_le 1 hc (by rwa [Nat.cast_one, mul_one])

theorem flip_turn (n : ℝ) (h : |n| = Real.pi) : ∃ k : ℤ, -n = n + 2 * Real.pi * k := by
  rcases (abs_eq pi_pos.le).1 h with rfl | rfl
  · exact ⟨-1, by push_cast; ring⟩
  · exact ⟨1, by push_cast; ring⟩

theorem flip_dist (n prev : ℝ) (h : ¬ (OpwNum.signum prev : ℝ) = OpwNum.signum n) :
    |-n - prev| ≤ |n - prev| := by
  -- the signs differ, so `n * prev ≤ 0` and `(-n - prev)² ≤ (n - prev)²`
  have hs : n * prev ≤ 0 := by
    rcases lt_or_ge prev 0 with hp | hp <;> rcases lt_or_ge n 0 with hn | hn
    · exact absurd (by rw [signum_neg hp, signum_neg hn]) h
    · exact mul_nonpos_of_nonneg_of_nonpos hn hp.le
    · exact mul_nonpos_of_nonpos_of_nonneg hn.le hp
    · exact absurd (by rw [signum_nonneg hp, signum_nonneg hn]) h
  exact sq_le_sq.1 (by linarith)

theorem adjustNear_turn (now prev : ℝ) : ∃ k : ℤ, adjustNear now prev = now + 2 * Real.pi * k := by
  rw [adjustNear_eq]
  obtain ⟨k, hk⟩ := adj12_turn now prev
  split_ifs with hf
  · obtain ⟨j, hj⟩ := flip_turn _ hf.1
    exact ⟨k + j, by rw [hj, hk, Int.cast_add, mul_add, add_assoc]⟩
  · exact ⟨k, hk⟩

theorem adjustNear_dist (now prev c : ℝ) (hc : Real.pi ≤ c) (h : |now - prev| ≤ c + 2 * Real.pi) :
    |adjustNear now prev - prev| ≤ c := by
  rw [adjustNear_eq]
  have h12 := adj12_dist now prev c hc h
  split_ifs with hf
  · exact (flip_dist _ _ hf.2).trans h12
  · exact h12

theorem normalizeNear_turn (now prev : ℝ) : ∃ k : ℤ, normalizeNear now prev = now + 2 * Real.pi * k := by
  unfold normalizeNear
  obtain ⟨k1, h1⟩ := adjustNear_turn now prev
  obtain ⟨k2, h2⟩ := adjustNear_turn (adjustNear now prev) prev
  exact ⟨k1 + k2, by rw [h2, h1, Int.cast_add, mul_add, add_assoc]⟩

theorem pi_add_two_pi : π + 2 * π = 3 * π := by ring

theorem three_pi_le_five_pi : 3 * π ≤ 5 * π := mul_le_mul_of_nonneg_right (by norm_num) pi_pos.le

theorem normalizeNear_dist (now prev : ℝ) (h : |now - prev| ≤ 5 * Real.pi) :
    |normalizeNear now prev - prev| ≤ Real.pi := by
  unfold normalizeNear
  -- the first pass brings `5π` down to `3π`, the second `3π` to `π`
  have h1 := adjustNear_dist now prev (3 * π) (le_mul_of_one_le_left pi_pos.le (by norm_num))
    (h.trans_eq (by ring))
  exact adjustNear_dist _ _ _ le_rfl (h1.trans_eq pi_add_two_pi.symm)

theorem adj12_of_close (now prev : ℝ) (h : |now - prev| ≤ π) : adj12 now prev = now := by
  rw [adj12_eq, normPiF_id 1 _ (abs_le.1 h).1 (abs_le.1 h).2, add_sub_cancel]

theorem adjustNear_self (x : ℝ) : adjustNear x x = x := by
  have hpi := Real.pi_pos
  have h : adj12 x x = x := adj12_of_close x x (by rw [sub_self, abs_zero]; exact hpi.le)
  rw [adjustNear_eq, h, if_neg]
  unfold flips
  exact fun hf => hf.2 rfl

theorem normalizeNear_self (x : ℝ) : normalizeNear x x = x := by
  unfold normalizeNear; rw [adjustNear_self, adjustNear_self]

theorem adj12_of_gt (now prev : ℝ) (h : now - prev > π) : adj12 now prev = now - 2 * π := by
  have e : loopDown 1 (now - prev) = now - prev - 2 * π := by
    rw [loopDown_succ, if_pos h, loopDown_zero]
  rw [adj12_eq, normPiF_eq, e, loopDown_id 1 (by linarith), neg_neg]
  ring

theorem adjustNear_of_gt (now prev : ℝ) (h : now - prev > Real.pi) (hn : |now - 2 * Real.pi| ≠ Real.pi) :
    adjustNear now prev = now - 2 * Real.pi := by
  rw [adjustNear_eq, adj12_of_gt now prev h, if_neg]
  unfold flips
  exact fun hf => hn hf.1

/-- six half-turns away: two passes remove only two turns -/
theorem normalizeNear_six_pi : normalizeNear (6 * Real.pi) 0 = 2 * Real.pi := by
  -- one pass takes one turn off `c π` when `c > 3`
  have pass : ∀ c : ℝ, 3 < c → adjustNear (c * π) 0 = (c - 2) * π := fun c hc => by
    have h : π < (c - 2) * π := lt_mul_of_one_lt_left pi_pos (by linarith)
    rw [sub_mul] at h ⊢
    exact adjustNear_of_gt _ 0 (by rw [sub_zero]; exact h.trans (sub_lt_self _ two_pi_pos))
      (by rw [abs_of_pos (pi_pos.trans h)]; exact h.ne')
  unfold normalizeNear
  rw [pass 6 (by norm_num), pass (6 - 2) (by norm_num)]
  norm_num

theorem byPrev_real : (byPrev : ℝ) = 0 := by
  show ((Gen.byPrevM : ℤ) : ℝ) * (2 : ℝ) ^ Gen.byPrevE = 0
  simp only [Gen.byPrevM, Int.cast_zero, zero_mul]

theorem byConstraints_real : (byConstraints : ℝ) = 1 := by
  show ((Gen.byConstraintsM : ℤ) : ℝ) * (2 : ℝ) ^ Gen.byConstraintsE = 1
  simp only [Gen.byConstraintsM, Gen.byConstraintsE, Int.cast_one, zpow_zero, mul_one]

theorem calculateDistance_real (a b : J6 ℝ) :
    calculateDistance a b =
      |a.j1 - b.j1| + |a.j2 - b.j2| + |a.j3 - b.j3| + |a.j4 - b.j4| + |a.j5 - b.j5| + |a.j6 - b.j6| := by
  unfold calculateDistance
  simp only [nabs_real, lit0, zero_add]

theorem calculateDistance_nonneg (a b : J6 ℝ) : 0 ≤ calculateDistance a b := by
  rw [calculateDistance_real]; positivity

theorem calculateDistance_self (a : J6 ℝ) : calculateDistance a a = 0 := by
  rw [calculateDistance_real]; simp only [sub_self, abs_zero, add_zero]

theorem calculateDistance_eq_zero_iff (a b : J6 ℝ) : calculateDistance a b = 0 ↔ a = b := by
  refine ⟨fun h => ?_, fun h => h ▸ calculateDistance_self a⟩
  -- a sum of non-negative terms vanishes only if each does; split it from the right
  have n1 := abs_nonneg (a.j1 - b.j1)
  have n2 := add_nonneg n1 (abs_nonneg (a.j2 - b.j2))
  have n3 := add_nonneg n2 (abs_nonneg (a.j3 - b.j3))
  have n4 := add_nonneg n3 (abs_nonneg (a.j4 - b.j4))
  have n5 := add_nonneg n4 (abs_nonneg (a.j5 - b.j5))
  rw [calculateDistance_real, add_eq_zero_iff_of_nonneg n5 (abs_nonneg _),
    add_eq_zero_iff_of_nonneg n4 (abs_nonneg _), add_eq_zero_iff_of_nonneg n3 (abs_nonneg _),
    add_eq_zero_iff_of_nonneg n2 (abs_nonneg _), add_eq_zero_iff_of_nonneg n1 (abs_nonneg _)] at h
  simp only [abs_eq_zero, sub_eq_zero] at h
  obtain ⟨⟨⟨⟨⟨h1, h2⟩, h3⟩, h4⟩, h5⟩, h6⟩ := h
  exact J6.ext' h1 h2 h3 h4 h5 h6

theorem sortByCloseness_pairwise (k : Opw ℝ) (l : List (J6 ℝ)) (previous : J6 ℝ) :
    (k.sortByCloseness l previous).Pairwise (fun a b => k.sortCost previous a ≤ k.sortCost previous b) := by
  unfold Opw.sortByCloseness
  have hp := List.pairwise_mergeSort
    (le := fun a b => !(decide (k.sortCost previous b < k.sortCost previous a)))
    (by
      intro a b c hab hbc
      simp only [Bool.not_eq_eq_eq_not, Bool.not_true, decide_eq_false_iff_not, not_lt] at hab hbc ⊢
      exact hab.trans hbc)
    (by
      intro a b
      simp only [Bool.or_eq_true, Bool.not_eq_eq_eq_not, Bool.not_true, decide_eq_false_iff_not, not_lt]
      exact le_total _ _) l
  refine hp.imp ?_
  intro a b hab
  simpa only [Bool.not_eq_eq_eq_not, Bool.not_true, decide_eq_false_iff_not, not_lt] using hab

theorem head_of_sorted_min {α : Type} (f : α → ℝ) (l : List α)
    (hs : l.Pairwise (fun a b => f a ≤ f b)) {x : α} (hx : x ∈ l) :
    ∃ h, l.head? = some h ∧ f h ≤ f x := by
  cases l with
  | nil => cases hx
  | cons h t =>
    refine ⟨h, rfl, ?_⟩
    rcases List.mem_cons.mp hx with rfl | hx
    · exact le_rfl
    · exact (List.pairwise_cons.mp hs).1 x hx

theorem filterCompliant_sublist {R : Type} [OpwNum R] (k : Opw R) (l : List (J6 R)) :
    (k.filterCompliant l).Sublist l := by
  unfold Opw.filterCompliant
  cases k.cons with
  | none => exact List.Sublist.refl _
  | some c => exact List.filter_sublist

theorem compliant_of_none {R : Type} [OpwNum R] (k : Opw R) (s : J6 R) (h : k.cons = none) :
    k.compliant s = true := by
  unfold Opw.compliant; rw [h]

/-- over ℝ there is no NaN sentinel: the reference vector is `prev` itself -/
theorem reference_real (k : Opw ℝ) (prev : J6 ℝ) : k.reference prev = prev := by
  unfold Opw.reference; simp only [isNaN_real, Bool.false_eq_true, if_false]

theorem compliant_normalizeNear (k : Opw ℝ) (s prev : J6 ℝ) :
    k.compliant (s.normalizeNear prev) = k.compliant s := by
  have h : ∀ now prev c tol : ℝ, insideBounds (normalizeNear now prev) c tol = insideBounds now c tol :=
    fun now prev c tol => by
      obtain ⟨k, hk⟩ := normalizeNear_turn now prev
      rw [hk, Limits.insideBounds_add_turn]
  unfold Opw.compliant
  cases k.cons with
  | none => rfl
  | some c => simp only [Constraints.compliant, J6.normalizeNear, J6.zipWith, h]

theorem shiftPose_zero_real (pose : Iso ℝ) : shiftPose pose V3.zero = pose := by
  unfold shiftPose V3.zero
  simp only [lit0, add_zero]

section
variable {R : Type} [OpwNum R]

theorem shiftLoop_mono (k : Opw R) (pose : Iso R) (previous : J6 R)
    (ds : List (V3 R)) (sols : List (J6 R)) {s : J6 R} (h : s ∈ sols) :
    s ∈ shiftLoop k pose previous ds sols := by
  induction ds generalizing sols with
  | nil => exact h
  | cons d ds ih =>
    have h1 : s ∈ shiftSols k.p pose sols d := mem_shiftSols.2 (.inl h)
    cases hr : recovered k pose previous d with
    | some now => rw [shiftLoop_cons_of_some hr]; exact List.mem_append_left _ h1
    | none => rw [shiftLoop_cons_of_none hr]; exact ih _ h1

theorem shiftLoop_first (k : Opw R) (pose : Iso R) (previous : J6 R) (d : V3 R) (ds : List (V3 R))
    {s : J6 R} (h : s ∈ inverseIntern k.p (shiftPose pose d)) :
    s ∈ shiftLoop k pose previous (d :: ds) [] := by
  have h1 : s ∈ shiftSols k.p pose [] d := mem_shiftSols.2 (.inr ⟨rfl, h⟩)
  cases hr : recovered k pose previous d with
  | some now => rw [shiftLoop_cons_of_some hr]; exact List.mem_append_left _ h1
  | none => rw [shiftLoop_cons_of_none hr]; exact shiftLoop_mono _ _ _ _ _ h1
end

theorem B_arg (y x : ℝ) : B 1 (natan2 y x) := by
  unfold B; rw [natan2_real, Nat.cast_one, one_mul]; exact Complex.abs_arg_le_pi _
theorem B_arccos (x : ℝ) : B 1 (nacos x) := by
  unfold B; rw [nacos_real, Nat.cast_one, one_mul, abs_of_nonneg (Real.arccos_nonneg x)]
  exact Real.arccos_le_pi x
theorem B_pi : B 1 (pi : ℝ) := by
  unfold B; rw [pi_def_real, Nat.cast_one, one_mul, abs_of_pos Real.pi_pos]
theorem B_add {m n : ℕ} {a b : ℝ} (ha : B m a) (hb : B n b) : B (m + n) (a + b) := by
  unfold B at *; rw [Nat.cast_add, add_mul]; exact (abs_add_le a b).trans (add_le_add ha hb)
theorem B_sub {m n : ℕ} {a b : ℝ} (ha : B m a) (hb : B n b) : B (m + n) (a - b) := by
  unfold B at *; rw [Nat.cast_add, add_mul]; exact (abs_sub a b).trans (add_le_add ha hb)
theorem B_neg {m : ℕ} {a : ℝ} (ha : B m a) : B m (-a) := by
  unfold B at *; rwa [abs_neg]

theorem B.le3 {n : ℕ} {x : ℝ} (hx : B n x) (hn : n ≤ 3 := by decide) : |x| ≤ 3 * π :=
  hx.trans (mul_le_mul_of_nonneg_right (by exact_mod_cast hn) pi_pos.le)

section
open IkComplete
variable (p : Params ℝ) (c : V3 ℝ)

theorem th1_le : |th1i p c| ≤ 3 * π ∧ |th1ii p c| ≤ 3 * π :=
  ⟨(B_sub (B_arg _ _) (B_arg _ _)).le3, (B_sub (B_add (B_arg _ _) (B_arg _ _)) B_pi).le3⟩

theorem th2_le :
    |th2i p c| ≤ 3 * π ∧ |th2ii p c| ≤ 3 * π ∧ |th2iii p c| ≤ 3 * π ∧ |th2iv p c| ≤ 3 * π :=
  ⟨(B_add (B_neg (B_arccos _)) (B_arg _ _)).le3, (B_add (B_arccos _) (B_arg _ _)).le3,
    (B_sub (B_neg (B_arccos _)) (B_arg _ _)).le3, (B_sub (B_arccos _) (B_arg _ _)).le3⟩

theorem th3_le :
    |th3i p c| ≤ 3 * π ∧ |th3ii p c| ≤ 3 * π ∧ |th3iii p c| ≤ 3 * π ∧ |th3iv p c| ≤ 3 * π :=
  ⟨(B_sub (B_arccos _) (B_arg _ _)).le3, (B_sub (B_neg (B_arccos _)) (B_arg _ _)).le3,
    (B_sub (B_arccos _) (B_arg _ _)).le3, (B_sub (B_neg (B_arccos _)) (B_arg _ _)).le3⟩

/-- a raw candidate and its wrist-flipped twin: the wrist angles are `atan2` values -/
theorem cand_absLe (m : M3 ℝ) {t1 t2 t3 : ℝ} (h1 : |t1| ≤ 3 * π) (h2 : |t2| ≤ 3 * π)
    (h3 : |t3| ≤ 3 * π) :
    absLe (cand m t1 t2 t3) (3 * π) ∧ absLe (flipG (cand m t1 t2 t3)) (3 * π) :=
  ⟨⟨h1, h2, h3, (B_arg _ _).le3, (B_arg _ _).le3, (B_arg _ _).le3⟩,
    ⟨h1, h2, h3, (B_add (B_arg _ _) B_pi).le3, (B_neg (B_arg _ _)).le3, (B_sub (B_arg _ _) B_pi).le3⟩⟩

theorem thetaCandidates_bound (p : Params ℝ) (pose : Iso ℝ) (t : J6 ℝ)
    (ht : t ∈ thetaCandidates p pose) : absLe t (3 * Real.pi) := by
  rw [thetaCandidates_eq] at ht
  simp only [List.mem_cons, List.not_mem_nil, or_false] at ht
  obtain ⟨a1, a2⟩ := th1_le p (wc p pose)
  obtain ⟨b1, b2, b3, b4⟩ := th2_le p (wc p pose)
  obtain ⟨c1, c2, c3, c4⟩ := th3_le p (wc p pose)
  rcases ht with rfl | rfl | rfl | rfl | rfl | rfl | rfl | rfl
  exacts [(cand_absLe _ a1 b1 c1).1, (cand_absLe _ a1 b2 c2).1, (cand_absLe _ a2 b3 c3).1,
    (cand_absLe _ a2 b4 c4).1, (cand_absLe _ a1 b1 c1).2, (cand_absLe _ a1 b2 c2).2,
    (cand_absLe _ a2 b3 c3).2, (cand_absLe _ a2 b4 c4).2]

end

theorem prod_bound (a s c : ℝ) (ha : |a| ≤ c) (hs : |s| ≤ 1) : |a * s| ≤ c := by
  rw [abs_mul]
  exact (mul_le_mul ha hs (abs_nonneg s) ((abs_nonneg a).trans ha)).trans_eq (mul_one c)

theorem joint_bound {t o s a b c : ℝ} (ht : |t| ≤ a) (ho : |o| ≤ b) (hs : |s| ≤ 1) (hc : a + b ≤ c) :
    |(t + o) * s| ≤ c :=
  prod_bound _ _ _ (((abs_add_le t o).trans (add_le_add ht ho)).trans hc) hs

theorem jointsOf_bound {p : Params ℝ} {t : J6 ℝ} {a b c : ℝ} (ht : absLe t a) (hs : absLe p.signs 1)
    (ho : absLe p.offsets b) (hc : a + b ≤ c) : absLe (jointsOf p t) c := by
  obtain ⟨t1, t2, t3, t4, t5, t6⟩ := ht
  obtain ⟨s1, s2, s3, s4, s5, s6⟩ := hs
  obtain ⟨o1, o2, o3, o4, o5, o6⟩ := ho
  exact ⟨joint_bound t1 o1 s1 hc, joint_bound t2 o2 s2 hc, joint_bound t3 o3 s3 hc,
    joint_bound t4 o4 s4 hc, joint_bound t5 o5 s5 hc, joint_bound t6 o6 s6 hc⟩

theorem normPi_abs_le (x : ℝ) (h : |x| ≤ π + 2 * π * normFuel) : |normPi x| ≤ π :=
  normPiF_abs_le normFuel le_rfl h

theorem normFuel_real : (normFuel : ℝ) = 100000 := by rw [normFuel, Nat.cast_ofNat]

/-- Where the bound `100000` (radians) on the offsets comes from, in the hypotheses
`absLe p.offsets 100000` of C04, C04b and the IK round-trip lemmas (the lemmas below take any bound
`b` with `hb`): it is a choice, not a constant of the code.  `jointsOf` adds the offset to a raw angle within `3π`, and the sum has to stay in the range
`π + 2π·normFuel` on which the fuel of `normPi` suffices (`normPi_abs_le`); any bound up to
`2π·normFuel − 2π` would do.  That `normFuel` is `100000` as well is a coincidence. -/
theorem raw_add_offset_le : 3 * π + 100000 ≤ π + 2 * π * normFuel := by
  rw [normFuel_real]; linarith [two_le_pi]

section
variable {b : ℝ} (hb : 3 * π + b ≤ π + 2 * π * normFuel)
include hb

theorem inverseIntern_absLe (p : Params ℝ) (pose : Iso ℝ) (s : J6 ℝ) (hs : absLe p.signs 1)
    (ho : absLe p.offsets b) (h : s ∈ inverseIntern p pose) : absLe s π := by
  obtain ⟨t, ht, -, rfl, -⟩ := mem_inverseIntern.1 h
  obtain ⟨b1, b2, b3, b4, b5, b6⟩ :=
    jointsOf_bound (thetaCandidates_bound p pose t ht) hs ho hb
  exact ⟨normPi_abs_le _ b1, normPi_abs_le _ b2, normPi_abs_le _ b3, normPi_abs_le _ b4,
    normPi_abs_le _ b5, normPi_abs_le _ b6⟩

theorem inverseIntern5_absLe (p : Params ℝ) (pose : Iso ℝ) (j6 : ℝ) (s : J6 ℝ) (hs : absLe p.signs 1)
    (ho : absLe p.offsets b) (h : s ∈ inverseIntern5 p pose j6) :
    |s.j1| ≤ π ∧ |s.j2| ≤ π ∧ |s.j3| ≤ π ∧ |s.j4| ≤ π ∧ |s.j5| ≤ π ∧ s.j6 = j6 := by
  obtain ⟨t, ht, -, rfl, -⟩ := mem_inverseIntern5.1 h
  obtain ⟨b1, b2, b3, b4, b5, -⟩ :=
    jointsOf_bound (thetaCandidates_bound p pose t ht) hs ho hb
  exact ⟨normPi_abs_le _ b1, normPi_abs_le _ b2, normPi_abs_le _ b3, normPi_abs_le _ b4,
    normPi_abs_le _ b5, rfl⟩

end

theorem abs_sub_le_add {a b c d : ℝ} (ha : |a| ≤ c) (hb : |b| ≤ d) : |a - b| ≤ c + d :=
  (abs_sub a b).trans (add_le_add ha hb)

theorem within_of_absLe {s prev : J6 ℝ} {c d : ℝ} (hs : absLe s c) (hp : absLe prev d) :
    within s prev (c + d) :=
  ⟨abs_sub_le_add hs.1 hp.1, abs_sub_le_add hs.2.1 hp.2.1, abs_sub_le_add hs.2.2.1 hp.2.2.1,
    abs_sub_le_add hs.2.2.2.1 hp.2.2.2.1, abs_sub_le_add hs.2.2.2.2.1 hp.2.2.2.2.1,
    abs_sub_le_add hs.2.2.2.2.2 hp.2.2.2.2.2⟩

theorem within_mono {a b : J6 ℝ} {c c' : ℝ} (h : within a b c) (hc : c ≤ c') : within a b c' := by
  obtain ⟨h1, h2, h3, h4, h5, h6⟩ := h
  exact ⟨h1.trans hc, h2.trans hc, h3.trans hc, h4.trans hc, h5.trans hc, h6.trans hc⟩

/-- an answer of `inverse_intern` (within `π` of `0`) against a previous vector within `2π` -/
theorem within_three_pi {s prev : J6 ℝ} (hs : absLe s π) (hp : absLe prev (2 * π)) :
    within s prev (3 * π) :=
  within_mono (within_of_absLe hs hp) pi_add_two_pi.le

theorem half_turn_bound (prev4 x s4 : ℝ) (hx : |x| ≤ π + 2 * π * normFuel) (hs : |s4| ≤ 1) :
    |prev4 + normPi x / 2 * s4 - prev4| ≤ π := by
  rw [add_sub_cancel_left]
  refine prod_bound _ _ _ ?_ hs
  rw [abs_div, abs_two]
  exact (half_le_self (abs_nonneg (normPi x))).trans (normPi_abs_le x hx)

theorem abs_pm_le (z : Bool) {x y c d : ℝ} (hx : |x| ≤ c) (hy : |y| ≤ d) :
    |if z then x + y else x - y| ≤ c + d := by
  cases z
  exacts [abs_sub_le_add hx hy, (abs_add_le x y).trans (add_le_add hx hy)]

theorem singularCandidate_within (p : Params ℝ) (prev s0 : J6 ℝ) (hs : absLe p.signs 1)
    (h0 : absLe s0 π) (hp : absLe prev (2 * π)) :
    within (singularCandidate p prev s0) prev (3 * π) := by
  have h3 : π ≤ 3 * π := le_mul_of_one_le_left pi_pos.le (by norm_num)
  obtain ⟨w1, w2, w3, -, w5, -⟩ := within_three_pi h0 hp
  -- `|sn − s|`, whichever singular case `z` is
  have hx := fun z : Bool =>
    (abs_sub_le_add
      (abs_pm_le z (prod_bound _ _ _ h0.2.2.2.1 hs.2.2.2.1) (prod_bound _ _ _ h0.2.2.2.2.2 hs.2.2.2.2.2))
      (abs_pm_le z (prod_bound _ _ _ hp.2.2.2.1 hs.2.2.2.1)
        (prod_bound _ _ _ hp.2.2.2.2.2 hs.2.2.2.2.2))).trans
      (by rw [normFuel_real]; linarith : π + π + (2 * π + 2 * π) ≤ π + 2 * π * normFuel)
  unfold singularCandidate within
  dsimp only
  refine ⟨w1, w2, w3, (half_turn_bound _ _ _ (hx _) hs.2.2.2.1).trans h3, ?_,
    (half_turn_bound _ _ _ (hx _) hs.2.2.2.2.2).trans h3⟩
  split_ifs
  · exact w5
  · exact (normalizeNear_dist _ _ (w5.trans three_pi_le_five_pi)).trans h3

theorem shiftLoop_within {b : ℝ} (hb : 3 * π + b ≤ π + 2 * π * normFuel) (k : Opw ℝ) (pose : Iso ℝ)
    (prev : J6 ℝ) (hs : absLe k.p.signs 1) (ho : absLe k.p.offsets b) (hp : absLe prev (2 * Real.pi))
    (ds : List (V3 ℝ)) (s : J6 ℝ) (h : s ∈ shiftLoop k pose prev ds []) : within s prev (3 * Real.pi) := by
  rcases mem_shiftLoop ds [] s h with h | ⟨-, d, -, s0, h0, rfl⟩ | ⟨-, -, d, -, -, -, h⟩
  · cases h
  · exact singularCandidate_within _ _ _ hs (inverseIntern_absLe hb _ _ s0 hs ho h0) hp
  · exact within_three_pi (inverseIntern_absLe hb _ _ s hs ho h) hp

theorem normalizeNear_within (s prev : J6 ℝ) (h : within s prev (5 * Real.pi)) :
    within (s.normalizeNear prev) prev Real.pi := by
  obtain ⟨h1, h2, h3, h4, h5, h6⟩ := h
  exact ⟨normalizeNear_dist _ _ h1, normalizeNear_dist _ _ h2, normalizeNear_dist _ _ h3,
    normalizeNear_dist _ _ h4, normalizeNear_dist _ _ h5, normalizeNear_dist _ _ h6⟩

/-! The example robot: `c2 = c3 = 1`, all other lengths `0`, no offsets, signs `+1`; pose = tool at `(0, 0, 2)` with the
identity orientation; the zero joint vector is found by `inverse_intern`. -/

theorem sqrt_four : Real.sqrt 4 = 2 := by
  rw [show (4 : ℝ) = 2 ^ 2 by norm_num]; exact Real.sqrt_sq (by norm_num)

noncomputable def exParams : Params ℝ := ⟨0, 0, 0, 0, 1, 1, 0, ⟨0, 0, 0, 0, 0, 0⟩, ⟨1, 1, 1, 1, 1, 1⟩, 6⟩
noncomputable def exPose : Iso ℝ := ⟨⟨0, 0, 2⟩, ⟨1, 0, 0, 0⟩⟩
noncomputable def zero6 : J6 ℝ := ⟨0, 0, 0, 0, 0, 0⟩
noncomputable def exOpw : Opw ℝ := ⟨exParams, none⟩

theorem ex_cand : zero6 ∈ thetaCandidates exParams exPose := by
  -- the first candidate (front shoulder, elbow up, wrist not flipped)
  rw [IkComplete.thetaCandidates_eq]
  refine List.mem_cons.2 (.inl ?_)
  simp only [IkComplete.cand, IkComplete.wristSol, IkComplete.th1i, IkComplete.th2i, IkComplete.th3i,
    IkComplete.tmp13, IkComplete.tmp14, IkComplete.tmp11, IkComplete.tmp9, IkComplete.s1sq,
    IkComplete.kappa2, IkComplete.nx1, IkComplete.wc, exParams, exPose, zero6, Quat.toMat, M3.mulVec,
    V3.ez, V3.sub, lit0, lit1, lit2, natan2_real, nsqrt_real, nacos_real, nsin_real, ncos_real,
    -- with the arithmetic of `0` and `1` in the same pass the unfolded terms stay small
    mul_zero, mul_one, add_zero, zero_add, sub_zero, zero_mul, one_mul, sub_self, Real.sqrt_zero,
    Real.sqrt_one]
  norm_num [arg_mk_im_zero, sqrt_four]

theorem normPi_zero : normPi (0 : ℝ) = 0 :=
  normPiF_id _ 0 (neg_nonpos.2 pi_pos.le) pi_pos.le

theorem ex_forward : forward exParams zero6 = exPose := by
  have h : thetaOf exParams zero6 = zero6 := by
    simp only [thetaOf, exParams, zero6, zero_mul, sub_zero]
  unfold forward
  rw [h]
  simp only [forwardTheta, exParams, zero6, exPose, r0c, rce, M3.mul, M3.scaleL, M3.mulVec,
    V3.add, V3.ez, Quat.ofMat, lit0, lit1, lit2, natan2_real, nsqrt_real, nsin_real, ncos_real,
    Real.sin_zero, Real.cos_zero, mul_zero, mul_one, add_zero, zero_add, sub_zero, neg_zero]
  norm_num [arg_mk_im_zero, sqrt_four]

theorem ex_compare : comparePoses exPose exPose distTol angTol = true := by
  have h1 := distTol_nonneg
  have h2 := angTol_nonneg
  simp only [comparePoses, exPose, V3.sub, V3.norm, V3.normSq, V3.dot, Quat.angleTo, Quat.rotationTo, Quat.mul,
    Quat.conj, Quat.angle, Quat.imag, lit2, natan2_real, nsqrt_real, nabs_real]
  norm_num [arg_mk_im_zero, h1, h2]

theorem ex_finish : finishCandidate exParams exPose (jointsOf exParams zero6) = some zero6 := by
  have h : jointsOf exParams zero6 = zero6 := by
    simp only [jointsOf, exParams, zero6]; norm_num
  rw [h]
  have hm : zero6.map normPi = zero6 := by simp only [J6.map, zero6, normPi_zero]
  unfold finishCandidate
  simp only [hm, ex_forward, ex_compare, if_true]
  simp [J6.allFinite, zero6]

theorem ex_mem : zero6 ∈ inverseIntern exParams exPose := by
  unfold inverseIntern
  rw [List.mem_filterMap]
  exact ⟨zero6, ex_cand, ex_finish⟩

theorem ex_dof : exOpw.p.dof ≠ 5 := by
  show (6 : ℤ) ≠ 5
  decide

theorem ex_mem_inverse : zero6 ∈ exOpw.inverse exPose :=
  (mem_inverse_of_dof6 ex_dof).2 ⟨ex_mem, rfl⟩

end Opw.Nearest
