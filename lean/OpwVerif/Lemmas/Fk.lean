/-
  The closed form of `forward` (real arithmetic): its rotation is the product of the six elementary
  joint rotations, its translation the accumulated link offsets.  The wrist centre of the closed form
  (`wcθ`) is the origin of link 5.

  Besides `Opw` the file declares into `Opw.IkComplete` (`kappa`, `psi3`, `cx1`, `wcθ`, `roe`, …) and
  `Opw.C02` (`forward_eq`), the names under which other files cite them.  `forwardTheta_fst`/`_snd`
  read `forwardTheta` in the closed-form vocabulary, `forwardTheta_rot`/`_tr` in the reference chain.
-/
import OpwVerif.Kin
import OpwVerif.Lemmas.GeomReal
namespace Opw

theorem M3.rz_mulVec (s c : ℝ) (v : V3 ℝ) :
    (M3.rz s c).mulVec v = ⟨c * v.x - s * v.y, s * v.x + c * v.y, v.z⟩ := by
  simp only [M3.rz, M3.mulVec, lit0, lit1, zero_mul, _root_.one_mul, add_zero, zero_add, neg_mul,
    sub_eq_add_neg]

theorem M3.ry_mulVec (s c : ℝ) (v : V3 ℝ) :
    (M3.ry s c).mulVec v = ⟨c * v.x + s * v.z, v.y, c * v.z - s * v.x⟩ := by
  simp only [M3.ry, M3.mulVec, lit0, lit1, zero_mul, _root_.one_mul, add_zero, zero_add, neg_mul,
    neg_add_eq_sub]

/-- rotations about `y` compose by adding the angles -/
theorem M3.ry_mul_ry_angle (b c : ℝ) :
    (M3.ry (Real.sin b) (Real.cos b)).mul (M3.ry (Real.sin c) (Real.cos c)) =
      M3.ry (Real.sin (b + c)) (Real.cos (b + c)) := by
  rw [M3.ry_mul_ry, ← Real.sin_add, ← Real.cos_add]

theorem r0c_eq_product (s1 c1 s2 c2 s3 c3 : ℝ) :
    r0c s1 c1 s2 c2 s3 c3 = ((M3.rz s1 c1).mul (M3.ry s2 c2)).mul (M3.ry s3 c3) := by
  apply M3.ext_mulVec
  intro v
  rw [M3.mulVec_mulVec, M3.mulVec_mulVec, M3.rz_mulVec, M3.ry_mulVec, M3.ry_mulVec]
  simp only [r0c, M3.mulVec, lit0]
  apply V3.ext' <;> ring

/-- the two pitch joints act as one rotation about `y` by `b + c` -/
theorem r0c_sin_cos (a b c : ℝ) :
    r0c (Real.sin a) (Real.cos a) (Real.sin b) (Real.cos b) (Real.sin c) (Real.cos c) =
      (M3.rz (Real.sin a) (Real.cos a)).mul (M3.ry (Real.sin (b + c)) (Real.cos (b + c))) := by
  rw [r0c_eq_product, M3.mul_assoc, M3.ry_mul_ry_angle]

theorem rce_eq_product (s4 c4 s5 c5 s6 c6 : ℝ) :
    rce s4 c4 s5 c5 s6 c6 = ((M3.rz s4 c4).mul (M3.ry s5 c5)).mul (M3.rz s6 c6) := by
  apply M3.ext_mulVec
  intro v
  rw [M3.mulVec_mulVec, M3.mulVec_mulVec, M3.rz_mulVec, M3.ry_mulVec, M3.rz_mulVec]
  simp only [rce, M3.mulVec]
  apply V3.ext' <;> ring

theorem M3.scaleL_mulVec_ez (s : ℝ) (m : M3 ℝ) : (M3.scaleL s m).mulVec V3.ez = m.mulVec ⟨0, 0, s⟩ := by
  simp only [M3.scaleL, M3.mulVec, V3.ez, lit0, lit1, mul_zero, zero_add, _root_.mul_one,
    mul_comm s]

theorem V3.norm_sub_self (a : V3 ℝ) : (a.sub a).norm = 0 := by
  simp [V3.norm, V3.normSq, V3.dot, V3.sub]

theorem norm_mk (x y : ℝ) : ‖(⟨x, y⟩ : ℂ)‖ = Real.sqrt (x * x + y * y) := by
  rw [Complex.norm_def, Complex.normSq_mk]

theorem IkComplete.re_eq_norm_cos (x y : ℝ) :
    x = Real.sqrt (x * x + y * y) * Real.cos (Complex.arg ⟨x, y⟩) := by
  have := Complex.norm_mul_cos_arg (⟨x, y⟩ : ℂ)
  rw [norm_mk] at this; exact this.symm

theorem IkComplete.im_eq_norm_sin (x y : ℝ) :
    y = Real.sqrt (x * x + y * y) * Real.sin (Complex.arg ⟨x, y⟩) := by
  have := Complex.norm_mul_sin_arg (⟨x, y⟩ : ℂ)
  rw [norm_mk] at this; exact this.symm

/-- turning a point given in polar form by `t` adds `t` to its angle -/
theorem IkComplete.rot_polar {u v S A : ℝ} (hu : u = S * Real.cos A) (hv : v = S * Real.sin A)
    (t : ℝ) :
    u * Real.cos t - v * Real.sin t = S * Real.cos (A + t) ∧
      u * Real.sin t + v * Real.cos t = S * Real.sin (A + t) := by
  rw [hu, hv, Real.cos_add, Real.sin_add]
  constructor <;> ring

/-- `κ cos ψ₃ = c₃` for `κ = √(a₂² + c₃²)`, `ψ₃ = atan2 a₂ c₃` -/
theorem kappa_cos (a c : ℝ) : Real.sqrt (a * a + c * c) * Real.cos (Complex.arg ⟨c, a⟩) = c := by
  rw [add_comm]; exact (IkComplete.re_eq_norm_cos c a).symm

/-- `κ sin ψ₃ = a₂` -/
theorem kappa_sin (a c : ℝ) : Real.sqrt (a * a + c * c) * Real.sin (Complex.arg ⟨c, a⟩) = a := by
  rw [add_comm]; exact (IkComplete.im_eq_norm_sin c a).symm

/-- `κ e^{i(t + ψ₃)} = (c₃ + i a₂) e^{it}` -/
theorem kappa_cos_add (a c t : ℝ) :
    Real.sqrt (a * a + c * c) * Real.cos (t + Complex.arg ⟨c, a⟩) = c * Real.cos t - a * Real.sin t := by
  rw [add_comm t]
  exact (IkComplete.rot_polar (kappa_cos a c).symm (kappa_sin a c).symm t).1.symm

theorem kappa_sin_add (a c t : ℝ) :
    Real.sqrt (a * a + c * c) * Real.sin (t + Complex.arg ⟨c, a⟩) = c * Real.sin t + a * Real.cos t := by
  rw [add_comm t]
  exact (IkComplete.rot_polar (kappa_cos a c).symm (kappa_sin a c).symm t).2.symm

/-! The reference chain: link `i` has rotation `rotᵢ`, the product of the elementary joint rotations
Rz·Ry·Ry·Rz·Ry·Rz up to joint `i`, and origin `orgᵢ`, the OPW offsets accumulated along it. -/

noncomputable def rot1 (q : J6 ℝ) : M3 ℝ := M3.rz (Real.sin q.j1) (Real.cos q.j1)
noncomputable def rot2 (q : J6 ℝ) : M3 ℝ := (rot1 q).mul (M3.ry (Real.sin q.j2) (Real.cos q.j2))
noncomputable def rot3 (q : J6 ℝ) : M3 ℝ := (rot2 q).mul (M3.ry (Real.sin q.j3) (Real.cos q.j3))
noncomputable def rot4 (q : J6 ℝ) : M3 ℝ := (rot3 q).mul (M3.rz (Real.sin q.j4) (Real.cos q.j4))
noncomputable def rot5 (q : J6 ℝ) : M3 ℝ := (rot4 q).mul (M3.ry (Real.sin q.j5) (Real.cos q.j5))
noncomputable def rot6 (q : J6 ℝ) : M3 ℝ := (rot5 q).mul (M3.rz (Real.sin q.j6) (Real.cos q.j6))

/-- joints 2 and 3 of the reference chain act as one rotation about `y` -/
theorem rot3_eq (q : J6 ℝ) :
    rot3 q = (rot1 q).mul (M3.ry (Real.sin (q.j2 + q.j3)) (Real.cos (q.j2 + q.j3))) := by
  rw [rot3, rot2, M3.mul_assoc, M3.ry_mul_ry_angle]

noncomputable def org1 (p : Params ℝ) (_q : J6 ℝ) : V3 ℝ := ⟨0, 0, p.c1⟩
noncomputable def org2 (p : Params ℝ) (q : J6 ℝ) : V3 ℝ := (org1 p q).add ((rot1 q).mulVec ⟨p.a1, p.b, 0⟩)
noncomputable def org3 (p : Params ℝ) (q : J6 ℝ) : V3 ℝ := (org2 p q).add ((rot2 q).mulVec ⟨0, 0, p.c2⟩)
noncomputable def org4 (p : Params ℝ) (q : J6 ℝ) : V3 ℝ := (org3 p q).add ((rot3 q).mulVec ⟨p.a2, 0, 0⟩)
noncomputable def org5 (p : Params ℝ) (q : J6 ℝ) : V3 ℝ := (org4 p q).add ((rot4 q).mulVec ⟨0, 0, p.c3⟩)
noncomputable def org6 (p : Params ℝ) (q : J6 ℝ) : V3 ℝ := (org5 p q).add ((rot5 q).mulVec ⟨0, 0, p.c4⟩)

namespace IkComplete

/-- `κ = √(a₂² + c₃²)` -/
noncomputable def kappa (p : Params ℝ) : ℝ := Real.sqrt (p.a2 * p.a2 + p.c3 * p.c3)
/-- `ψ₃ = atan2(a₂, c₃)` -/
noncomputable def psi3 (p : Params ℝ) : ℝ := Complex.arg ⟨p.c3, p.a2⟩
/-- horizontal reach of the wrist centre from the J2 axis, in the arm plane -/
noncomputable def armX (p : Params ℝ) (θ : J6 ℝ) : ℝ :=
  p.c2 * Real.sin θ.j2 + kappa p * Real.sin (θ.j2 + θ.j3 + psi3 p)
/-- horizontal coordinate of the wrist centre in the frame of link 1 -/
noncomputable def cx1 (p : Params ℝ) (θ : J6 ℝ) : ℝ := armX p θ + p.a1
/-- height of the wrist centre above the J2 axis -/
noncomputable def cz1 (p : Params ℝ) (θ : J6 ℝ) : ℝ :=
  p.c2 * Real.cos θ.j2 + kappa p * Real.cos (θ.j2 + θ.j3 + psi3 p)
/-- the wrist centre of configuration `θ` in base coordinates -/
noncomputable def wcθ (p : Params ℝ) (θ : J6 ℝ) : V3 ℝ :=
  ⟨cx1 p θ * Real.cos θ.j1 - p.b * Real.sin θ.j1, cx1 p θ * Real.sin θ.j1 + p.b * Real.cos θ.j1,
   cz1 p θ + p.c1⟩
/-- the rotation matrix of configuration `θ` (closed form of `forward`) -/
noncomputable def roe (θ : J6 ℝ) : M3 ℝ :=
  (r0c (Real.sin θ.j1) (Real.cos θ.j1) (Real.sin θ.j2) (Real.cos θ.j2) (Real.sin θ.j3) (Real.cos θ.j3)).mul
    (rce (Real.sin θ.j4) (Real.cos θ.j4) (Real.sin θ.j5) (Real.cos θ.j5) (Real.sin θ.j6) (Real.cos θ.j6))

theorem kappa_pos_of_c3 {p : Params ℝ} (h : 0 < p.c3) : 0 < kappa p :=
  Real.sqrt_pos.2 (add_pos_of_nonneg_of_pos (mul_self_nonneg p.a2) (mul_pos h h))

/-- the `let` chain of `forwardTheta` in these names: rotation, and wrist centre plus `c4` along the
tool axis -/
theorem forwardTheta_eq (p : Params ℝ) (θ : J6 ℝ) :
    forwardTheta p θ = (roe θ, (wcθ p θ).add ((M3.scaleL p.c4 (roe θ)).mulVec V3.ez)) := by
  dsimp only [forwardTheta, roe, wcθ, cx1, cz1, armX, kappa, psi3, nsin_real, ncos_real, natan2_real,
    nsqrt_real]

theorem forwardTheta_fst (p : Params ℝ) (θ : J6 ℝ) : (forwardTheta p θ).1 = roe θ :=
  congrArg Prod.fst (forwardTheta_eq p θ)

theorem forwardTheta_snd (p : Params ℝ) (θ : J6 ℝ) :
    (forwardTheta p θ).2 = (wcθ p θ).add ((M3.scaleL p.c4 (roe θ)).mulVec V3.ez) :=
  congrArg Prod.snd (forwardTheta_eq p θ)

theorem roe_eq_rot6 (θ : J6 ℝ) : roe θ = rot6 θ := by
  simp only [roe, r0c_eq_product, rce_eq_product, rot6, rot5, rot4, rot3, rot2, rot1, M3.mul_assoc]

theorem wcθ_eq_org5 (p : Params ℝ) (θ : J6 ℝ) : wcθ p θ = org5 p θ := by
  simp only [wcθ, cx1, armX, cz1, kappa, psi3, kappa_cos_add, kappa_sin_add]
  simp only [org5, org4, org3, org2, org1, rot4, rot3_eq, rot2, rot1, M3.mulVec_mulVec, M3.rz_mulVec,
    M3.ry_mulVec, V3.add, mul_zero, add_zero, zero_add, sub_zero]
  apply V3.ext' <;> ring

end IkComplete
open IkComplete

theorem forwardTheta_rot (p : Params ℝ) (q : J6 ℝ) : (forwardTheta p q).1 = rot6 q :=
  (forwardTheta_fst p q).trans (roe_eq_rot6 q)

theorem forwardTheta_tr (p : Params ℝ) (q : J6 ℝ) : (forwardTheta p q).2 = org6 p q := by
  rw [forwardTheta_snd, wcθ_eq_org5, M3.scaleL_mulVec_ez, roe_eq_rot6, rot6, M3.mulVec_mulVec,
    M3.rz_mulVec]
  simp only [mul_zero, sub_self, add_zero, org6]

theorem C02.forward_eq (p : Params ℝ) (j : J6 ℝ) :
    forward p j = ⟨(forwardTheta p (thetaOf p j)).2, Quat.ofMat (forwardTheta p (thetaOf p j)).1⟩ := rfl

end Opw
