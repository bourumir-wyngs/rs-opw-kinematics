/-
  Real reading of the frame and Jacobian models of `Misc.lean`: the basis construction of
  `Frame::frame` (C17) and the algebra of 6-vector columns, `J x` and `Jᵀ F` (C15).
-/
import OpwVerif.Misc
import OpwVerif.Lemmas.OfMat
namespace Opw.MiscReal

/-! Vector facts of `GeomReal`, stated once more under these `MiscReal` names. -/

theorem V3.dot_comm (a b : V3 ℝ) : a.dot b = b.dot a := Opw.V3.dot_comm a b

theorem V3.dot_cross_self_right (a b : V3 ℝ) : b.dot (a.cross b) = 0 :=
  Opw.V3.dot_cross_self_right a b

theorem V3.norm_right_ne_zero_of_cross {a b : V3 ℝ} (h : (a.cross b).norm ≠ 0) : b.norm ≠ 0 :=
  fun hb => h (V3.norm_cross_eq_zero (by rw [(V3.norm_eq_zero_iff b).1 hb, mul_zero]))

theorem basisOf_isRot {v1 v2 : V3 ℝ} (h : (V3.cross v1 v2).norm ≠ 0) : IsRot (basisOf v1 v2) := by
  have h1 := V3.norm_left_ne_zero_of_cross h
  unfold basisOf
  apply IsRot_ofColumns (V3.dot_normalize_self h1) (V3.dot_normalize_self h)
  rw [V3.dot_normalize_normalize, V3.dot_cross_self_left, zero_div]

theorem basisOf_col0 (v1 v2 : V3 ℝ) : (basisOf v1 v2).col0 = v1.normalize := rfl
theorem basisOf_col1 (v1 v2 : V3 ℝ) : (basisOf v1 v2).col1 = (V3.cross v1 v2).normalize := rfl

theorem basisOf_mulVec {m : M3 ℝ} (h : IsRot m) (v1 v2 : V3 ℝ) :
    basisOf (m.mulVec v1) (m.mulVec v2) = m.mul (basisOf v1 v2) := by
  unfold basisOf
  simp only [h.cross_mulVec, h.normalize_mulVec, M3.mul_eq_ofColumns, M3.col0_ofColumns,
    M3.col1_ofColumns, M3.col2_ofColumns]

/-- `NON_ISOMETRY_TOLERANCE = 0.005_f64` as the exact dyadic number the translator regenerates from
the source (`Gen.nonIsoTolM`, `Gen.nonIsoTolE`); the lemma fails to check when the Rust constant changes. -/
theorem nonIsoTol_eq : (nonIsoTol : ℝ) = 5764607523034235 / 1152921504606846976 := by
  show ((Gen.nonIsoTolM : ℤ) : ℝ) * (2 : ℝ) ^ Gen.nonIsoTolE = _
  unfold Gen.nonIsoTolM Gen.nonIsoTolE
  norm_num

theorem transpose_mulVec_col0 {m : M3 ℝ} (h : IsRot m) : m.transpose.mulVec m.col0 = ⟨1, 0, 0⟩ := by
  rw [← M3.mulVec_ex, ← M3.mulVec_mulVec, h.tm, M3.one_mulVec]

theorem transpose_mulVec_col1 {m : M3 ℝ} (h : IsRot m) : m.transpose.mulVec m.col1 = ⟨0, 1, 0⟩ := by
  rw [← M3.mulVec_ey, ← M3.mulVec_mulVec, h.tm, M3.one_mulVec]

end Opw.MiscReal

namespace Opw
theorem Col.ext' {a b : Col ℝ} (h1 : a.lin = b.lin) (h2 : a.ang = b.ang) : a = b := by
  cases a; cases b; simp_all

noncomputable def Col.add (a b : Col ℝ) : Col ℝ := ⟨a.lin.add b.lin, a.ang.add b.ang⟩
noncomputable def Col.scale (a : Col ℝ) (c : ℝ) : Col ℝ := ⟨a.lin.scale c, a.ang.scale c⟩
noncomputable def Col.zero : Col ℝ := ⟨V3.zero, V3.zero⟩
noncomputable def Col.dot (a b : Col ℝ) : ℝ := a.lin.dot b.lin + a.ang.dot b.ang
end Opw

namespace Opw.MiscReal

/-- the accumulation step of `jacMulVec` -/
noncomputable def jacStep (acc : Col ℝ) (cx : Col ℝ × ℝ) : Col ℝ :=
  ⟨acc.lin.add (cx.1.lin.scale cx.2), acc.ang.add (cx.1.ang.scale cx.2)⟩

theorem jacMulVec_eq_foldl (jac : List (Col ℝ)) (x : List ℝ) :
    jacMulVec jac x = (jac.zip x).foldl jacStep Col.zero := rfl

theorem jacStep_add (a b : Col ℝ) (cx : Col ℝ × ℝ) : jacStep (a.add b) cx = a.add (jacStep b cx) :=
  Col.ext' (V3.add_assoc _ _ _) (V3.add_assoc _ _ _)

theorem foldl_jacStep_add (l : List (Col ℝ × ℝ)) (a b : Col ℝ) :
    l.foldl jacStep (a.add b) = a.add (l.foldl jacStep b) := by
  induction l generalizing b with
  | nil => rfl
  | cons cx l ih => simp only [List.foldl_cons]; rw [jacStep_add, ih]

theorem Col.add_zero (a : Col ℝ) : a.add Col.zero = a :=
  Col.ext' (V3.add_zero _) (V3.add_zero _)

theorem Col.zero_add (a : Col ℝ) : Col.zero.add a = a :=
  Col.ext' (V3.zero_add _) (V3.zero_add _)

theorem Col.zero_scale (k : ℝ) : Col.zero.scale k = Col.zero := by
  simp only [Col.scale, Col.zero, V3.scale, V3.zero, lit0, zero_mul]

theorem Col.dot_zero (f : Col ℝ) : f.dot Col.zero = 0 := by
  simp only [Col.dot, Col.zero, V3.dot, V3.zero, lit0, mul_zero, _root_.add_zero]

theorem jacStep_zero (c : Col ℝ) (a : ℝ) : jacStep Col.zero (c, a) = c.scale a :=
  Col.zero_add (c.scale a)

theorem jacMulVec_nil_left (x : List ℝ) : jacMulVec [] x = Col.zero := rfl
theorem jacMulVec_nil_right (jac : List (Col ℝ)) : jacMulVec jac [] = Col.zero := by
  rw [jacMulVec_eq_foldl, List.zip_nil_right]; rfl

/-- recursion: `J x = x₀ c₀ + J' x'` -/
theorem jacMulVec_cons (c : Col ℝ) (cs : List (Col ℝ)) (a : ℝ) (xs : List ℝ) :
    jacMulVec (c :: cs) (a :: xs) = (c.scale a).add (jacMulVec cs xs) := by
  rw [jacMulVec_eq_foldl, jacMulVec_eq_foldl, List.zip_cons_cons, List.foldl_cons, jacStep_zero,
    ← Col.add_zero (c.scale a), foldl_jacStep_add, Col.add_zero]

/-- `Σ τᵢ xᵢ` -/
noncomputable def listDot (a b : List ℝ) : ℝ := (List.zipWith (· * ·) a b).sum

noncomputable def withJ1 (q : J6 ℝ) (v : ℝ) : J6 ℝ := ⟨v, q.j2, q.j3, q.j4, q.j5, q.j6⟩

theorem set0_eq (q : J6 ℝ) (v : ℝ) : q.set 0 v = withJ1 q v := rfl

end Opw.MiscReal
