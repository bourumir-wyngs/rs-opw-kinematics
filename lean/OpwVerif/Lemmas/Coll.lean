/-
  The collision model (`Collisions.lean`): which pairs `tasks` enumerates, what `processTasks` does
  with them in each mode, the effect of the `skip` list.  List reasoning for an arbitrary scene, safety
  table and `choice`; the comparisons of `R` carry no assumed property.
-/
import OpwVerif.Collisions
import Mathlib.Data.List.Nodup

namespace Opw.Coll

theorem filterMap_ite {α β : Type} (l : List α) (p : α → Bool) (g : α → β) :
    l.filterMap (fun x => if p x then some (g x) else none) = (l.filter p).map g := by
  induction l with
  | nil => rfl
  | cons a tl ih =>
    rw [List.filterMap_cons, List.filter_cons, ih]
    cases p a <;> rfl

/-! The parts of `tasks` are guarded comprehensions of pairs `(i, j)`, `j` from a list, and guarded
singletons. -/

section
variable {l : List Nat} {c : Nat → Prop} [DecidablePred c] {i : Nat}

theorem mem_filterMap_pair {p : Nat × Nat} :
    p ∈ l.filterMap (fun j => if c j then some (i, j) else none) ↔ p.1 = i ∧ p.2 ∈ l ∧ c p.2 := by
  obtain ⟨a, b⟩ := p
  simp only [List.mem_filterMap, Option.ite_none_right_eq_some, Option.some.injEq, Prod.mk.injEq]
  constructor
  · rintro ⟨j, hj, hc, rfl, rfl⟩; exact ⟨rfl, hj, hc⟩
  · rintro ⟨rfl, hj, hc⟩; exact ⟨b, hj, hc, rfl, rfl⟩

theorem nodup_filterMap_pair (h : l.Nodup) :
    (l.filterMap (fun j => if c j then some (i, j) else none)).Nodup := by
  refine h.filterMap fun a a' b h1 h2 => ?_
  simp only [Option.mem_def, Option.ite_none_right_eq_some, Option.some.injEq] at h1 h2
  exact (Prod.mk.inj (h1.2.trans h2.2.symm)).2

end

theorem mem_flatMap_fst {β : Type} {l : List Nat} {f : Nat → List (Nat × β)}
    (hf : ∀ i, ∀ p ∈ f i, p.1 = i) {p : Nat × β} : p ∈ l.flatMap f ↔ p.1 ∈ l ∧ p ∈ f p.1 := by
  rw [List.mem_flatMap]
  constructor
  · rintro ⟨i, hi, hp⟩; rw [hf i p hp]; exact ⟨hi, hp⟩
  · rintro ⟨hi, hp⟩; exact ⟨p.1, hi, hp⟩

theorem nodup_ite_nil {α : Type} {c : Prop} [Decidable c] {l : List α} (h : l.Nodup) :
    (if c then l else []).Nodup := by
  split
  · exact h
  · exact List.nodup_nil

/-- the only facts about the three regenerated index constants that the proofs use -/
theorem consts : 6 ≤ jTool ∧ jTool < jBase ∧ jBase < envStart := by decide

/-! The bodies are indexed in the order joints, tool, base, environment objects. -/

theorem joint_lt_jTool {n : Nat} (h : n < 6) : n < jTool := Nat.lt_of_lt_of_le h consts.1

theorem jTool_lt_jBase : jTool < jBase := consts.2.1

theorem jBase_lt_env {e : Nat} (h : envStart ≤ e) : jBase < e := Nat.lt_of_lt_of_le consts.2.2 h

theorem mem_envIds {n e : Nat} : e ∈ envIds n ↔ envStart ≤ e ∧ e < envStart + n := by
  simp only [envIds, List.mem_map, List.mem_range]
  constructor
  · rintro ⟨k, hk, rfl⟩; exact ⟨Nat.le_add_right _ _, Nat.add_lt_add_left hk _⟩
  · rintro ⟨h1, h2⟩
    obtain ⟨k, rfl⟩ := Nat.exists_eq_add_of_le h1
    exact ⟨k, Nat.lt_of_add_lt_add_left h2, rfl⟩

theorem nodup_envIds (n : Nat) : (envIds n).Nodup :=
  List.nodup_range.map (fun a b h => by simpa using h)

section
variable {R : Type}

theorem mem_relevantPairs (sc : Scene R) (i j : Nat) :
    (i, j) ∈ relevantPairs sc ↔
      (i < 6 ∧ j < 6 ∧ i + 1 < j) ∨
      (i < 6 ∧ envStart ≤ j ∧ j < envStart + sc.envLen) ∨
      (sc.hasTool = true ∧ i = jTool ∧ envStart ≤ j ∧ j < envStart + sc.envLen) ∨
      (sc.hasTool = true ∧ i < 4 ∧ j = jTool) ∨
      (sc.hasBase = true ∧ 1 ≤ i ∧ i < 6 ∧ j = jBase) ∨
      (sc.hasTool = true ∧ sc.hasBase = true ∧ i = jTool ∧ j = jBase) := by
  -- `(a, b) = (i, j)` puts `i`, `j` in for the bound variables of each of the six comprehensions
  -- (`existsAndEq`); what is left are the six alternatives, the third and the fifth with their
  -- conjuncts in another order
  simp only [relevantPairs, List.mem_append, List.mem_flatMap, List.mem_filterMap, List.mem_map,
    List.mem_range, List.mem_ite_nil_right, List.mem_singleton, Option.ite_none_right_eq_some,
    Option.some.injEq, Prod.mk.injEq, Bool.and_eq_true, mem_envIds, or_assoc, and_assoc, existsAndEq,
    true_and, and_true, ge_iff_le, gt_iff_lt, eq_comm (a := jTool), eq_comm (a := jBase),
    and_rotate (a := i = jTool), and_left_comm (a := i < 6) (b := 1 ≤ i)]

theorem fst_of_mem_relevantPairs {sc : Scene R} {p : Nat × Nat} (h : p ∈ relevantPairs sc) :
    p.1 < 6 ∨ p.1 = jTool := by
  rcases (mem_relevantPairs sc p.1 p.2).1 h with h | h | h | h | h | h
  · exact .inl h.1
  · exact .inl h.1
  · exact .inr h.2.1
  · exact .inl (Nat.lt_trans h.2.1 (by decide))
  · exact .inl h.2.2.1
  · exact .inr h.2.2.1

end

variable {R : Type} [OpwNum R]

theorem unmoved_mono {skip : List Nat} {k : Nat} (h : unmoved [] k = true) : unmoved skip k = true := by
  simp only [unmoved, List.contains_nil, Bool.false_or] at h
  simp only [unmoved, Bool.or_assoc, h, Bool.or_true]

theorem unmoved_nil_false {k : Nat} (h : k < 6 ∨ k = jTool) : unmoved [] k = false := by
  have hk : k < jBase :=
    h.elim (fun h => Nat.lt_trans (joint_lt_jTool h) jTool_lt_jBase) (· ▸ jTool_lt_jBase)
  simp only [unmoved, List.contains_nil, Bool.false_or, Bool.or_eq_false_iff, beq_eq_false_iff_ne,
    decide_eq_false_iff_not]
  exact ⟨Nat.ne_of_lt hk, Nat.not_le.2 (Nat.lt_trans hk consts.2.2)⟩

theorem checkRequired_iff {own : Safety R} {skip : List Nat} {i j : Nat} :
    checkRequired own skip i j = true ↔
      ¬ (unmoved skip i = true ∧ unmoved skip j = true) ∧ own.minDistance i j > neverCollides := by
  unfold checkRequired
  cases unmoved skip i <;> cases unmoved skip j <;> simp

theorem checkRequired_mono {own : Safety R} {skip : List Nat} {i j : Nat}
    (h : checkRequired own skip i j = true) : checkRequired own [] i j = true := by
  rw [checkRequired_iff] at h ⊢
  exact ⟨fun hh => h.1 ⟨unmoved_mono hh.1, unmoved_mono hh.2⟩, h.2⟩

/-- why two guards of the code are redundant: a required check against a body that never moves (the
base, an environment object) shows that the other body is not skipped -/
theorem checkRequired_not_skipped {own : Safety R} {skip : List Nat} {i j : Nat}
    (hj : unmoved [] j = true) (h : checkRequired own skip i j = true) : skip.contains i = false := by
  cases hs : skip.contains i
  · rfl
  · exact absurd ⟨by simp only [unmoved, hs, Bool.true_or], unmoved_mono hj⟩ (checkRequired_iff.1 h).1

theorem unmoved_jBase : unmoved [] jBase = true := by decide

theorem unmoved_env {e : Nat} (he : envStart ≤ e) : unmoved [] e = true := by
  simp only [unmoved, he, decide_true, Bool.or_true]

theorem checkRequired_nil_relevant {sc : Scene R} {own : Safety R} {p : Nat × Nat} (hp : p ∈ relevantPairs sc) :
    checkRequired own [] p.1 p.2 = true ↔ own.minDistance p.1 p.2 > neverCollides := by
  rw [checkRequired_iff, unmoved_nil_false (fst_of_mem_relevantPairs hp)]; simp

/-! The parts of `tasks`, named; the tool–environment part is the joint–environment part for
`i = jTool` under a guard. -/

def jjL (own : Safety R) (skip : List Nat) (i : Nat) : List (Nat × Nat) :=
  ((List.range 6).reverse).filterMap (fun j =>
    if j > i && j - i > 1 && checkRequired own skip i j then some (i, j) else none)
def jeL (sc : Scene R) (own : Safety R) (skip : List Nat) (i : Nat) : List (Nat × Nat) :=
  (envIds sc.envLen).filterMap (fun e => if checkRequired own skip i e then some (i, e) else none)
def toolEnvL (sc : Scene R) (own : Safety R) (skip : List Nat) : List (Nat × Nat) :=
  if !(skip.contains jTool) && sc.hasTool then jeL sc own skip jTool else []
def jtL (sc : Scene R) (own : Safety R) (skip : List Nat) (i : Nat) : List (Nat × Nat) :=
  if !(skip.contains jTool) && i != 5 && i != 4 && checkRequired own skip i jTool && sc.hasTool
  then [(i, jTool)] else []
def jbL (sc : Scene R) (own : Safety R) (skip : List Nat) (i : Nat) : List (Nat × Nat) :=
  if i != 0 && !(skip.contains i) && checkRequired own skip i jBase && sc.hasBase then [(i, jBase)] else []
def perJointL (sc : Scene R) (own : Safety R) (skip : List Nat) (i : Nat) : List (Nat × Nat) :=
  jjL own skip i ++ jeL sc own skip i ++ jtL sc own skip i ++ jbL sc own skip i
def toolBaseL (sc : Scene R) (own : Safety R) (skip : List Nat) : List (Nat × Nat) :=
  if (!(skip.contains jTool) || checkRequired own skip jTool jBase) && sc.hasTool && sc.hasBase
  then [(jTool, jBase)] else []

theorem tasks_eq (sc : Scene R) (own : Safety R) (skip : List Nat) :
    tasks sc own skip =
      toolEnvL sc own skip ++ (List.range 6).flatMap (perJointL sc own skip) ++ toolBaseL sc own skip := rfl

section
variable {sc : Scene R} {own : Safety R} {skip : List Nat} {i : Nat} {p : Nat × Nat}

theorem mem_jjL : p ∈ jjL own skip i ↔
    p.1 = i ∧ p.2 < 6 ∧ i + 1 < p.2 ∧ checkRequired own skip i p.2 = true := by
  have h : i < p.2 ∧ 1 < p.2 - i ↔ i + 1 < p.2 := by
    rw [Nat.lt_sub_iff_add_lt']
    exact and_iff_right_of_imp Nat.lt_of_succ_lt
  simp only [jjL, mem_filterMap_pair, List.mem_reverse, List.mem_range, Bool.and_eq_true,
    decide_eq_true_eq, gt_iff_lt, h]

theorem mem_jeL : p ∈ jeL sc own skip i ↔
    p.1 = i ∧ p.2 ∈ envIds sc.envLen ∧ checkRequired own skip i p.2 = true := by
  simp only [jeL, mem_filterMap_pair]

theorem mem_toolEnvL : p ∈ toolEnvL sc own skip ↔ (skip.contains jTool = false ∧ sc.hasTool = true) ∧
    p.1 = jTool ∧ p.2 ∈ envIds sc.envLen ∧ checkRequired own skip jTool p.2 = true := by
  simp only [toolEnvL, List.mem_ite_nil_right, mem_jeL, Bool.and_eq_true, Bool.not_eq_true']

theorem mem_jtL : p ∈ jtL sc own skip i ↔ (skip.contains jTool = false ∧ i ≠ 5 ∧ i ≠ 4 ∧
    checkRequired own skip i jTool = true ∧ sc.hasTool = true) ∧ p.1 = i ∧ p.2 = jTool := by
  simp only [jtL, List.mem_ite_nil_right, List.mem_singleton, Bool.and_eq_true, Bool.not_eq_true',
    bne_iff_ne, ne_eq, and_assoc, Prod.ext_iff]

theorem mem_jbL : p ∈ jbL sc own skip i ↔ (i ≠ 0 ∧ skip.contains i = false ∧
    checkRequired own skip i jBase = true ∧ sc.hasBase = true) ∧ p.1 = i ∧ p.2 = jBase := by
  simp only [jbL, List.mem_ite_nil_right, List.mem_singleton, Bool.and_eq_true, Bool.not_eq_true',
    bne_iff_ne, ne_eq, and_assoc, Prod.ext_iff]

theorem mem_toolBaseL : p ∈ toolBaseL sc own skip ↔
    ((skip.contains jTool = false ∨ checkRequired own skip jTool jBase = true) ∧
      sc.hasTool = true ∧ sc.hasBase = true) ∧ p.1 = jTool ∧ p.2 = jBase := by
  simp only [toolBaseL, List.mem_ite_nil_right, List.mem_singleton, Bool.and_eq_true, Bool.or_eq_true,
    Bool.not_eq_true', and_assoc, Prod.ext_iff]

theorem fst_of_mem_perJointL (i : Nat) (p : Nat × Nat) (h : p ∈ perJointL sc own skip i) : p.1 = i := by
  simp only [perJointL, List.mem_append, mem_jjL, mem_jeL, mem_jtL, mem_jbL] at h
  rcases h with ((h | h) | h) | h
  · exact h.1
  · exact h.1
  · exact h.2.1
  · exact h.2.1

end

/-- the guards `check_tool` (tool–environment) and `!skip.contains(&i)` (joint–base) of the code do not
appear: they follow from `check_required` (`checkRequired_not_skipped`) -/
theorem mem_tasks (sc : Scene R) (own : Safety R) (skip : List Nat) (p : Nat × Nat) :
    p ∈ tasks sc own skip ↔ p ∈ relevantPairs sc ∧
      (checkRequired own skip p.1 p.2 = true ∨ (p = (jTool, jBase) ∧ skip.contains jTool = false)) ∧
      (p.2 = jTool → skip.contains jTool = false) := by
  obtain ⟨i, j⟩ := p
  rw [mem_relevantPairs, tasks_eq, List.mem_append, List.mem_append,
    mem_flatMap_fst fst_of_mem_perJointL]
  simp only [perJointL, List.mem_append, mem_toolEnvL, mem_jjL, mem_jeL, mem_jtL, mem_jbL, mem_toolBaseL,
    List.mem_range, mem_envIds, Prod.mk.injEq, true_and]
  -- only the last alternative of `relevantPairs` is the pair `(jTool, jBase)`, and only the fourth has
  -- the tool as second component
  have hJ : ∀ {n : Nat}, n < 6 → n ≠ jTool := fun h => Nat.ne_of_lt (joint_lt_jTool h)
  constructor
  · rintro ((⟨⟨hT, ht⟩, rfl, he, hr⟩ | ⟨hi, ((⟨hj, hij, hr⟩ | ⟨he, hr⟩) | ⟨⟨hT, h5, h4, hr, ht⟩, rfl⟩) |
      ⟨⟨h0, hs, hr, hb⟩, rfl⟩⟩) | ⟨⟨hg, ht, hb⟩, rfl, rfl⟩)
    · exact ⟨.inr (.inr (.inl ⟨ht, rfl, he⟩)), .inl hr, fun _ => hT⟩
    · exact ⟨.inl ⟨hi, hj, hij⟩, .inl hr, fun h => (hJ hj h).elim⟩
    · exact ⟨.inr (.inl ⟨hi, he⟩), .inl hr,
        fun h => (Nat.ne_of_gt (Nat.lt_trans jTool_lt_jBase (jBase_lt_env he.1)) h).elim⟩
    · exact ⟨.inr (.inr (.inr (.inl ⟨ht, by omega, rfl⟩))), .inl hr, fun _ => hT⟩
    · exact ⟨.inr (.inr (.inr (.inr (.inl ⟨hb, Nat.pos_of_ne_zero h0, hi, rfl⟩)))), .inl hr,
        fun h => (Nat.ne_of_gt jTool_lt_jBase h).elim⟩
    · exact ⟨.inr (.inr (.inr (.inr (.inr ⟨ht, hb, rfl, rfl⟩)))),
        hg.elim (fun h => .inr ⟨⟨rfl, rfl⟩, h⟩) .inl, fun h => (Nat.ne_of_gt jTool_lt_jBase h).elim⟩
  · rintro ⟨hr, hg, hT⟩
    rcases hr with ⟨hi, hj, hij⟩ | ⟨hi, he⟩ | ⟨ht, rfl, he⟩ | ⟨ht, hi, rfl⟩ | ⟨hb, h0, hi, rfl⟩ |
      ⟨ht, hb, rfl, rfl⟩
    · exact .inl (.inr ⟨hi, .inl (.inl (.inl ⟨hj, hij, hg.resolve_right fun h => hJ hi h.1.1⟩))⟩)
    · exact .inl (.inr ⟨hi, .inl (.inl (.inr ⟨he, hg.resolve_right fun h => hJ hi h.1.1⟩))⟩)
    · have hr := hg.resolve_right fun h => Nat.ne_of_gt (jBase_lt_env he.1) h.1.2
      exact .inl (.inl ⟨⟨checkRequired_not_skipped (unmoved_env he.1) hr, ht⟩, rfl, he, hr⟩)
    · have hi6 : i < 6 := Nat.lt_trans hi (by decide)
      have hr := hg.resolve_right fun h => hJ hi6 h.1.1
      exact .inl (.inr ⟨hi6, .inl (.inr
        ⟨⟨hT rfl, Nat.ne_of_lt (Nat.lt_succ_of_lt hi), Nat.ne_of_lt hi, hr, ht⟩, rfl⟩)⟩)
    · have hr := hg.resolve_right fun h => hJ hi h.1.1
      exact .inl (.inr ⟨hi, .inr
        ⟨⟨Nat.ne_of_gt h0, checkRequired_not_skipped unmoved_jBase hr, hr, hb⟩, rfl⟩⟩)
    · exact .inr ⟨⟨hg.symm.imp_left And.right, ht, hb⟩, rfl, rfl⟩

/-- `hT` holds for `skip = []` and for the skip lists `non_colliding_offsets` builds -/
theorem mem_tasks_of_tool_moved (sc : Scene R) (own : Safety R) {skip : List Nat}
    (hT : skip.contains jTool = false) (p : Nat × Nat) :
    p ∈ tasks sc own skip ↔
      p ∈ relevantPairs sc ∧ (checkRequired own skip p.1 p.2 = true ∨ p = (jTool, jBase)) := by
  simp only [mem_tasks, hT, and_true, implies_true]

theorem tasks_subset (sc : Scene R) (own : Safety R) (skip : List Nat) {p : Nat × Nat}
    (h : p ∈ tasks sc own skip) : p ∈ tasks sc own [] := by
  rw [mem_tasks] at h
  rw [mem_tasks_of_tool_moved sc own rfl]
  exact ⟨h.1, h.2.1.imp checkRequired_mono And.left⟩

theorem missing_unmoved (sc : Scene R) (own : Safety R) {skip : List Nat}
    (hT : skip.contains jTool = false) {p : Nat × Nat}
    (h1 : p ∈ tasks sc own []) (h2 : p ∉ tasks sc own skip) :
    unmoved skip p.1 = true ∧ unmoved skip p.2 = true := by
  rw [mem_tasks_of_tool_moved sc own rfl] at h1
  rw [mem_tasks_of_tool_moved sc own hT] at h2
  by_contra hu
  exact h2 ⟨h1.1, h1.2.imp_left fun hg => checkRequired_iff.2 ⟨hu, (checkRequired_iff.1 hg).2⟩⟩

theorem nodup_perJointL (sc : Scene R) (own : Safety R) (skip : List Nat) (i : Nat) :
    (perJointL sc own skip i).Nodup := by
  have hjj : (jjL own skip i).Nodup := nodup_filterMap_pair (List.nodup_reverse.2 List.nodup_range)
  have hje : (jeL sc own skip i).Nodup := nodup_filterMap_pair (nodup_envIds _)
  have hjt : (jtL sc own skip i).Nodup := nodup_ite_nil (List.nodup_singleton _)
  have hjb : (jbL sc own skip i).Nodup := nodup_ite_nil (List.nodup_singleton _)
  -- the four parts differ in the second component: a joint, an environment object, the tool, the base
  have sjj : ∀ {p}, p ∈ jjL own skip i → p.2 < jTool := fun h => joint_lt_jTool (mem_jjL.1 h).2.1
  have sje : ∀ {p}, p ∈ jeL sc own skip i → jBase < p.2 := fun h =>
    jBase_lt_env (mem_envIds.1 (mem_jeL.1 h).2.1).1
  have sjt : ∀ {p}, p ∈ jtL sc own skip i → p.2 = jTool := fun h => (mem_jtL.1 h).2.2
  have sjb : ∀ {p}, p ∈ jbL sc own skip i → p.2 = jBase := fun h => (mem_jbL.1 h).2.2
  refine ((hjj.append hje ?_).append hjt ?_).append hjb ?_
  · intro p h1 h2
    exact Nat.lt_asymm (Nat.lt_trans (sjj h1) jTool_lt_jBase) (sje h2)
  · intro p h1 h2
    rcases List.mem_append.1 h1 with h | h
    · exact Nat.ne_of_lt (sjj h) (sjt h2)
    · exact Nat.lt_asymm jTool_lt_jBase (sjt h2 ▸ sje h)
  · intro p h1 h2
    rcases List.mem_append.1 h1 with h | h
    · rcases List.mem_append.1 h with h | h
      · exact Nat.ne_of_lt (Nat.lt_trans (sjj h) jTool_lt_jBase) (sjb h2)
      · exact Nat.ne_of_gt (sje h) (sjb h2)
    · exact Nat.ne_of_lt jTool_lt_jBase ((sjt h).symm.trans (sjb h2))

/-- the code never pushes the same pair twice (any skip list) -/
theorem tasks_nodup (sc : Scene R) (own : Safety R) (skip : List Nat) : (tasks sc own skip).Nodup := by
  have hte : (toolEnvL sc own skip).Nodup := nodup_ite_nil (nodup_filterMap_pair (nodup_envIds _))
  have hpj : ((List.range 6).flatMap (perJointL sc own skip)).Nodup :=
    List.nodup_flatMap.2 ⟨fun i _ => nodup_perJointL sc own skip i, List.nodup_range.imp fun hab p h1 h2 =>
      hab ((fst_of_mem_perJointL _ p h1).symm.trans (fst_of_mem_perJointL _ p h2))⟩
  have htb : (toolBaseL sc own skip).Nodup := nodup_ite_nil (List.nodup_singleton _)
  rw [tasks_eq]
  -- tool–environment pairs start with the tool, the per-joint pairs with a joint; tool–base ends in the base
  have spj : ∀ {p}, p ∈ (List.range 6).flatMap (perJointL sc own skip) → p.1 ≠ jTool := fun h =>
    Nat.ne_of_lt (joint_lt_jTool (List.mem_range.1 ((mem_flatMap_fst fst_of_mem_perJointL).1 h).1))
  refine (hte.append hpj ?_).append htb ?_
  · intro p h1 h2
    exact spj h2 (mem_toolEnvL.1 h1).2.1
  · intro p h1 h2
    rcases List.mem_append.1 h1 with h | h
    · exact Nat.ne_of_gt (jBase_lt_env (mem_envIds.1 (mem_toolEnvL.1 h).2.2.1).1) (mem_toolBaseL.1 h2).2.2
    · exact spj h (mem_toolBaseL.1 h2).2.1

/-- if the AABB pre-filter never discards a pair whose shapes are within the safety distance, the
verdict of a task is the brute-force verdict -/
theorem taskCollides_eq_pairVerdict {sc : Scene R} {safety : Safety R}
    (h : ∀ i j, sc.distance i j ≤ safety.minDistance i j →
      sc.aabbNear i j (safety.minDistance i j) = true)
    (i j : Nat) : taskCollides sc safety i j = pairVerdict sc safety i j := by
  unfold taskCollides pairVerdict
  -- within the distance the filter lets the pair through; otherwise both verdicts are `false`
  by_cases hd : sc.distance i j ≤ safety.minDistance i j
  · simp only [h i j hd, Bool.not_true, Bool.false_eq_true, if_false]
  · simp only [hd, decide_false, ite_self]

theorem taskCollides_true_not_le {sc : Scene R} {safety : Safety R} {i j : Nat}
    (h : taskCollides sc safety i j = true) : ¬ safety.minDistance i j ≤ neverCollides := by
  intro hle
  simp [taskCollides, hle] at h

theorem beq_noCheck (m : CheckMode) : (m == CheckMode.noCheck) = decide (m = CheckMode.noCheck) := by
  cases m <;> rfl

/-- the list of colliding tasks, as reported (pairs normalised to smaller index first) -/
def hitsOf (sc : Scene R) (safety : Safety R) (ts : List (Nat × Nat)) : List (Nat × Nat) :=
  (ts.filter (fun p => taskCollides sc safety p.1 p.2)).map normPair

theorem processTasks_all (sc : Scene R) (safety : Safety R) (ts : List (Nat × Nat))
    (choice : List (Nat × Nat) → Option (Nat × Nat)) :
    processTasks sc safety .allCollisions ts choice = hitsOf sc safety ts := rfl

theorem processTasks_noCheck (sc : Scene R) (safety : Safety R) (ts : List (Nat × Nat))
    (choice : List (Nat × Nat) → Option (Nat × Nat)) :
    processTasks sc safety .noCheck ts choice = [] := rfl

theorem processTasks_first (sc : Scene R) (safety : Safety R) (ts : List (Nat × Nat))
    (choice : List (Nat × Nat) → Option (Nat × Nat)) :
    (hitsOf sc safety ts = [] ∧ processTasks sc safety .firstCollisionOnly ts choice = []) ∨
    (∃ c ∈ hitsOf sc safety ts, processTasks sc safety .firstCollisionOnly ts choice = [c]) := by
  unfold processTasks hitsOf
  generalize (ts.filter fun p => taskCollides sc safety p.1 p.2).map normPair = hits
  cases hits with
  | nil => exact .inl ⟨rfl, rfl⟩
  | cons h tl =>
    right
    simp only
    cases choice (h :: tl) with
    | none => exact ⟨h, List.mem_cons_self, rfl⟩
    | some c =>
      simp only
      split
      next hm => exact ⟨c, List.contains_iff_mem.1 hm, rfl⟩
      next => exact ⟨h, List.mem_cons_self, rfl⟩

theorem processTasks_first_isEmpty (sc : Scene R) (safety : Safety R) (ts : List (Nat × Nat))
    (choice : List (Nat × Nat) → Option (Nat × Nat)) :
    (processTasks sc safety .firstCollisionOnly ts choice).isEmpty = (hitsOf sc safety ts).isEmpty := by
  rcases processTasks_first sc safety ts choice with ⟨h1, h2⟩ | ⟨c, hc, h2⟩
  · rw [h1, h2]
  · rw [h2, List.isEmpty_eq_false_iff_exists_mem.2 ⟨c, hc⟩]; rfl

theorem hitsOf_isEmpty (sc : Scene R) (safety : Safety R) (ts : List (Nat × Nat)) :
    (hitsOf sc safety ts).isEmpty = true ↔ ∀ p ∈ ts, taskCollides sc safety p.1 p.2 = false := by
  simp only [hitsOf, List.isEmpty_iff, List.map_eq_nil_iff, List.filter_eq_nil_iff, Bool.not_eq_true]

theorem mem_hitsOf {sc : Scene R} {safety : Safety R} {ts : List (Nat × Nat)} {q : Nat × Nat} :
    q ∈ hitsOf sc safety ts ↔ ∃ p ∈ ts, taskCollides sc safety p.1 p.2 = true ∧ q = normPair p := by
  simp only [hitsOf, List.mem_map, List.mem_filter, and_assoc, eq_comm (b := q)]

theorem detect_first_isEmpty (sc : Scene R) (own safety : Safety R) (skip : List Nat)
    (choice : List (Nat × Nat) → Option (Nat × Nat)) :
    (detect sc own safety (some .firstCollisionOnly) skip choice).isEmpty =
      (hitsOf sc safety (tasks sc own skip)).isEmpty :=
  processTasks_first_isEmpty sc safety (tasks sc own skip) choice

theorem collides_eq (sc : Scene R) (own : Safety R) (choice : List (Nat × Nat) → Option (Nat × Nat)) :
    collides sc own choice =
      !(own.mode == .noCheck || (detect sc own own (some .firstCollisionOnly) [] choice).isEmpty) := by
  unfold collides
  cases own.mode <;> rfl

theorem detect_skip_isEmpty (sc : Scene R) (own : Safety R) {skip : List Nat}
    (choice : List (Nat × Nat) → Option (Nat × Nat))
    (hT : skip.contains jTool = false)
    (hU : ∀ p ∈ relevantPairs sc, unmoved skip p.1 = true → unmoved skip p.2 = true →
      taskCollides sc own p.1 p.2 = false) :
    (detect sc own own (some .firstCollisionOnly) skip choice).isEmpty =
      (detect sc own own (some .firstCollisionOnly) [] choice).isEmpty := by
  rw [detect_first_isEmpty, detect_first_isEmpty, Bool.eq_iff_iff, hitsOf_isEmpty, hitsOf_isEmpty]
  constructor
  · intro h p hp
    by_cases hps : p ∈ tasks sc own skip
    · exact h p hps
    · obtain ⟨u1, u2⟩ := missing_unmoved sc own hT hp hps
      exact hU p ((mem_tasks sc own [] p).1 hp).1 u1 u2
  · intro h p hp
    exact h p (tasks_subset sc own skip hp)

theorem range_contains_jTool {k : Nat} (hk : k ≤ 6) : (List.range k).contains jTool = false := by
  rw [Bool.eq_false_iff]
  simp only [List.contains_iff_mem, List.mem_range, ne_eq]
  exact Nat.not_lt.2 (Nat.le_trans hk consts.1)

end Opw.Coll
