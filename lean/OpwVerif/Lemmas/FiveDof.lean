/-
  The 5-DOF solvers over ℝ: the position returned by `forward` does not depend on θ6, and on θ1 … θ5
  only modulo whole turns (`J5TurnEq`).

  The file declares into the namespace `Opw.Corollaries`, shared with `Lemmas/Corollaries.lean`: C06b
  cites these lemmas under that name.
-/
import OpwVerif.Lemmas.Flip

namespace Opw.Corollaries
open Opw Opw.Wrist Opw.C02

def J5TurnEq (a b : J6 ℝ) : Prop :=
  TurnEq a.j1 b.j1 ∧ TurnEq a.j2 b.j2 ∧ TurnEq a.j3 b.j3 ∧ TurnEq a.j4 b.j4 ∧ TurnEq a.j5 b.j5

theorem J5TurnEq.refl (a : J6 ℝ) : J5TurnEq a a := ⟨.refl _, .refl _, .refl _, .refl _, .refl _⟩
theorem J5TurnEq.trans {a b c : J6 ℝ} (h : J5TurnEq a b) (g : J5TurnEq b c) : J5TurnEq a c :=
  ⟨h.1.trans g.1, h.2.1.trans g.2.1, h.2.2.1.trans g.2.2.1, h.2.2.2.1.trans g.2.2.2.1,
    h.2.2.2.2.trans g.2.2.2.2⟩
theorem J5TurnEq.symm {a b : J6 ℝ} (h : J5TurnEq a b) : J5TurnEq b a :=
  ⟨h.1.symm, h.2.1.symm, h.2.2.1.symm, h.2.2.2.1.symm, h.2.2.2.2.symm⟩
theorem J5TurnEq.of_J6 {a b : J6 ℝ} (h : J6TurnEq a b) : J5TurnEq a b :=
  ⟨h.1, h.2.1, h.2.2.1, h.2.2.2.1, h.2.2.2.2.1⟩

/-- `org6` is built from `rot1 … rot5` -/
theorem forwardTheta_tr_indep_j6 (p : Params ℝ) (θ : J6 ℝ) (x : ℝ) :
    (forwardTheta p { θ with j6 := x }).2 = (forwardTheta p θ).2 := by
  rw [forwardTheta_tr, forwardTheta_tr]
  rfl

theorem forwardTheta_tr_congr5 (p : Params ℝ) {a b : J6 ℝ} (h : J5TurnEq a b) :
    (forwardTheta p a).2 = (forwardTheta p b).2 := by
  have e : J6TurnEq { a with j6 := b.j6 } b :=
    ⟨h.1, h.2.1, h.2.2.1, h.2.2.2.1, h.2.2.2.2, .refl _⟩
  rw [← forwardTheta_tr_indep_j6 p a b.j6, forwardTheta_congr p e]

theorem compareXyz_self (a : V3 ℝ) {tol : ℝ} (h : 0 ≤ tol) : compareXyz a a tol = true := by
  unfold compareXyz
  rw [V3.norm_sub_self]
  exact decide_eq_true h

theorem thetaOf_norm5_turnEq (p : Params ℝ) (hs : SignsOk p) (t : J6 ℝ) (j6 : ℝ) :
    J5TurnEq (thetaOf p (norm5 (jointsOf p t) j6)) t := by
  obtain ⟨h1, h2, h3, h4, h5, -⟩ := thetaOf_finish_turnEq p hs t
  exact ⟨h1, h2, h3, h4, h5⟩

theorem first5Finite_real (j : J6 ℝ) : j.first5Finite = true := by
  simp only [J6.first5Finite, fin_real, Bool.and_self]

/-- what the 5-DOF solver does with a raw candidate whose tool point under `forwardTheta` is the
requested one: whatever `j6`, the answer built from it has exactly that tool point, passes the
position check at distance `0`, and is kept -/
theorem finish5_of_tr (p : Params ℝ) (hs : SignsOk p) (pose : Iso ℝ) (j6 : ℝ) {t : J6 ℝ}
    (h : (forwardTheta p t).2 = pose.t) :
    finishCandidate5 p pose j6 (jointsOf p t) = some (norm5 (jointsOf p t) j6) ∧
      (forward p (norm5 (jointsOf p t) j6)).t = pose.t := by
  have ht : (forward p (norm5 (jointsOf p t) j6)).t = pose.t :=
    (forwardTheta_tr_congr5 p (thetaOf_norm5_turnEq p hs t j6)).trans h
  refine ⟨finishCandidate5_eq_some.mpr ⟨first5Finite_real _, rfl, ?_⟩, ht⟩
  unfold Sound5
  rw [ht]
  exact compareXyz_self _ Nearest.distTol_nonneg

theorem J5TurnEq_of_theta (p : Params ℝ) (hs : SignsOk p) {a b : J6 ℝ}
    (h : J5TurnEq (thetaOf p a) (thetaOf p b)) : J5TurnEq a b := by
  obtain ⟨s1, s2, s3, s4, s5, -⟩ := hs
  obtain ⟨h1, h2, h3, h4, h5⟩ := h
  exact ⟨turnEq_of_theta s1 h1, turnEq_of_theta s2 h2, turnEq_of_theta s3 h3, turnEq_of_theta s4 h4,
    turnEq_of_theta s5 h5⟩

end Opw.Corollaries
