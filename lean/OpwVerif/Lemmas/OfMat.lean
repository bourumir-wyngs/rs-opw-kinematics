/-
  Rotation matrices (`IsRot`) and `Quat.ofMat` (nalgebra's four-branch `from_rotation_matrix`),
  which inverts `Quat.toMat` on them, over ℝ.

  On the trace branch `ofMat m = qB1 m s u` with `s = √(1 + tr m)` and `u = s⁻¹`; its scalar part
  is `s / 2`, its imaginary part `u / 2` times the axial vector of `m - mᵀ`.  The products of these
  components are linear in the entries of `m` (`IsRot.axial_outer`: the outer square of the axial
  vector is `(1 + tr m) (m + mᵀ - (tr m - 1) 1)`), and so are then the norm and the entries of
  `toMat`.  Each of the other three branches is the trace branch of `m` turned by π about
  a coordinate axis, times the unit quaternion of that turn (`ofMat_spec_of_eq`).  Positivity of the
  radicand in branches 2–4 is linear arithmetic from the branch conditions alone: they make the
  pivot the largest diagonal entry, and a third of `tr m ≤ 0` plus two thirds of the two
  comparisons is the radicand minus one.
-/
import OpwVerif.Lemmas.GeomReal

namespace Opw

/-- `m` is a rotation matrix: orthogonal, and equal to its cofactor matrix (equivalently, given
orthogonality, `det m = 1`). -/
structure IsRot (m : M3 ℝ) : Prop where
  tm : m.transpose.mul m = M3.one
  mt : m.mul m.transpose = M3.one
  cof : m.cof = m

/-- the scalar content of `IsRot` -/
structure IsRot.Eqs (m : M3 ℝ) : Prop where
  hc00 : m.m00 * m.m00 + m.m10 * m.m10 + m.m20 * m.m20 = 1
  hc01 : m.m00 * m.m01 + m.m10 * m.m11 + m.m20 * m.m21 = 0
  hc02 : m.m00 * m.m02 + m.m10 * m.m12 + m.m20 * m.m22 = 0
  hc11 : m.m01 * m.m01 + m.m11 * m.m11 + m.m21 * m.m21 = 1
  hc12 : m.m01 * m.m02 + m.m11 * m.m12 + m.m21 * m.m22 = 0
  hc22 : m.m02 * m.m02 + m.m12 * m.m12 + m.m22 * m.m22 = 1
  hr00 : m.m00 * m.m00 + m.m01 * m.m01 + m.m02 * m.m02 = 1
  hr01 : m.m00 * m.m10 + m.m01 * m.m11 + m.m02 * m.m12 = 0
  hr02 : m.m00 * m.m20 + m.m01 * m.m21 + m.m02 * m.m22 = 0
  hr11 : m.m10 * m.m10 + m.m11 * m.m11 + m.m12 * m.m12 = 1
  hr12 : m.m10 * m.m20 + m.m11 * m.m21 + m.m12 * m.m22 = 0
  hr22 : m.m20 * m.m20 + m.m21 * m.m21 + m.m22 * m.m22 = 1
  hk00 : m.m00 = m.m11 * m.m22 - m.m12 * m.m21
  hk01 : m.m01 = m.m12 * m.m20 - m.m10 * m.m22
  hk02 : m.m02 = m.m10 * m.m21 - m.m11 * m.m20
  hk10 : m.m10 = m.m02 * m.m21 - m.m01 * m.m22
  hk11 : m.m11 = m.m00 * m.m22 - m.m02 * m.m20
  hk12 : m.m12 = m.m01 * m.m20 - m.m00 * m.m21
  hk20 : m.m20 = m.m01 * m.m12 - m.m02 * m.m11
  hk21 : m.m21 = m.m02 * m.m10 - m.m00 * m.m12
  hk22 : m.m22 = m.m00 * m.m11 - m.m01 * m.m10

theorem isRot_iff_eqs {m : M3 ℝ} : IsRot m ↔ IsRot.Eqs m := by
  cases m
  constructor
  · rintro ⟨a, b, c⟩
    simp only [M3.mul, M3.transpose, M3.one, M3.cof, M3.mk.injEq, lit0, lit1] at a b c
    obtain ⟨a00, a01, a02, -, a11, a12, -, -, a22⟩ := a
    obtain ⟨b00, b01, b02, -, b11, b12, -, -, b22⟩ := b
    obtain ⟨c00, c01, c02, c10, c11, c12, c20, c21, c22⟩ := c
    exact ⟨a00, a01, a02, a11, a12, a22, b00, b01, b02, b11, b12, b22,
      c00.symm, c01.symm, c02.symm, c10.symm, c11.symm, c12.symm, c20.symm, c21.symm, c22.symm⟩
  · intro e
    constructor <;> simp only [M3.mul, M3.transpose, M3.one, M3.cof, M3.mk.injEq, lit0, lit1]
    · exact ⟨e.hc00, e.hc01, e.hc02, by simpa only [mul_comm] using e.hc01, e.hc11, e.hc12,
        by simpa only [mul_comm] using e.hc02, by simpa only [mul_comm] using e.hc12, e.hc22⟩
    · exact ⟨e.hr00, e.hr01, e.hr02, by simpa only [mul_comm] using e.hr01, e.hr11, e.hr12,
        by simpa only [mul_comm] using e.hr02, by simpa only [mul_comm] using e.hr12, e.hr22⟩
    · exact ⟨e.hk00.symm, e.hk01.symm, e.hk02.symm, e.hk10.symm, e.hk11.symm, e.hk12.symm,
        e.hk20.symm, e.hk21.symm, e.hk22.symm⟩

theorem IsRot.eqs {m : M3 ℝ} (h : IsRot m) : IsRot.Eqs m := isRot_iff_eqs.1 h

theorem IsRot.of_eqs {m : M3 ℝ} (e : IsRot.Eqs m) : IsRot m := isRot_iff_eqs.2 e

/-- the system `u = v m`, `v = u m` has determinant `1 − m²` -/
theorem cross_zero {u v m : ℝ} (hm : m * m ≠ 1) (hu : u = v * m) (hv : v = u * m) : u = 0 ∧ v = 0 := by
  have h : (1 - m * m) * u = 0 := by linear_combination hu + m * hv
  have e := (mul_eq_zero.mp h).resolve_left (sub_ne_zero.mpr hm.symm)
  exact ⟨e, by rw [hv, e, zero_mul]⟩

/-- A rotation matrix with `m22² ≠ 1` is determined by its last row and last column.  By the cofactor
equations of the entries `(0,0)`, `(1,1)` the differences `d00`, `d11` of these entries of two such
matrices satisfy `d00 = d11 m22`, `d11 = d00 m22`, so they vanish (`cross_zero`); likewise for `(0,1)`,
`(1,0)`. -/
theorem IsRot.ext_last {A B : M3 ℝ} (hA : IsRot A) (hB : IsRot B) (hm : B.m22 * B.m22 ≠ 1)
    (h02 : A.m02 = B.m02) (h12 : A.m12 = B.m12) (h20 : A.m20 = B.m20) (h21 : A.m21 = B.m21)
    (h22 : A.m22 = B.m22) : A = B := by
  have a := hA.eqs
  have b := hB.eqs
  have d00 : A.m00 - B.m00 = (A.m11 - B.m11) * B.m22 := by
    rw [a.hk00, b.hk00, h12, h21, h22, sub_sub_sub_cancel_right, sub_mul]
  have d11 : A.m11 - B.m11 = (A.m00 - B.m00) * B.m22 := by
    rw [a.hk11, b.hk11, h02, h20, h22, sub_sub_sub_cancel_right, sub_mul]
  have d01 : A.m01 - B.m01 = (B.m10 - A.m10) * B.m22 := by
    rw [a.hk01, b.hk01, h12, h20, h22, sub_sub_sub_cancel_left, sub_mul]
  have d10 : B.m10 - A.m10 = (A.m01 - B.m01) * B.m22 := by
    rw [a.hk10, b.hk10, h02, h21, h22, sub_sub_sub_cancel_left, sub_mul]
  obtain ⟨e00, e11⟩ := cross_zero hm d00 d11
  obtain ⟨e01, e10⟩ := cross_zero hm d01 d10
  exact M3.ext' (sub_eq_zero.mp e00) (sub_eq_zero.mp e01) h02 (sub_eq_zero.mp e10).symm
    (sub_eq_zero.mp e11) h12 h20 h21 h22

/-- Orthonormal columns and determinant one make a rotation matrix: `mᵀ` is a left inverse and
`(cof m)ᵀ` a right inverse of `m`, so the two agree. -/
theorem IsRot.of_orthogonal_det {m : M3 ℝ} (htm : m.transpose.mul m = M3.one) (hdet : m.det = 1) :
    IsRot m := by
  have hadj : m.mul m.cof.transpose = M3.one := by rw [M3.mul_cof_transpose, hdet, M3.one_eq]
  have hc : m.cof.transpose = m.transpose := by
    rw [← M3.one_mul m.cof.transpose, ← htm, M3.mul_assoc, hadj, M3.mul_one]
  exact ⟨htm, by rw [← hc, hadj], congrArg M3.transpose hc⟩

theorem IsRot.det {m : M3 ℝ} (h : IsRot m) : m.det = 1 := by
  have := congrArg M3.m00 m.mul_cof_transpose
  rw [h.cof, h.mt, M3.one_eq] at this
  exact this.symm

theorem IsRot_one : IsRot (M3.one : M3 ℝ) :=
  .of_orthogonal_det (by rw [M3.transpose_one, M3.mul_one]) M3.det_one

theorem IsRot_toMat (q : Quat ℝ) (h : q.normSq = 1) : IsRot q.toMat :=
  .of_orthogonal_det (Quat.toMat_transpose_mul q h) (Quat.det_toMat q h)

theorem Quat.cof_toMat (q : Quat ℝ) (h : q.normSq = 1) : q.toMat.cof = q.toMat :=
  (IsRot_toMat q h).cof

theorem IsRot.mul {a b : M3 ℝ} (ha : IsRot a) (hb : IsRot b) : IsRot (a.mul b) := by
  apply IsRot.of_orthogonal_det
  · rw [M3.transpose_mul, M3.mul_assoc, ← M3.mul_assoc a.transpose, ha.tm, M3.one_mul, hb.tm]
  · rw [M3.det_mul, ha.det, hb.det, _root_.mul_one]

theorem IsRot.transpose {m : M3 ℝ} (h : IsRot m) : IsRot m.transpose :=
  .of_orthogonal_det h.mt (by rw [M3.det_transpose, h.det])

theorem IsRot_rz (θ : ℝ) : IsRot (M3.rz (Real.sin θ) (Real.cos θ)) := by
  rw [← Quat.toMat_rotZ]; exact IsRot_toMat _ (Quat.normSq_rotZ θ)

theorem IsRot_ry (θ : ℝ) : IsRot (M3.ry (Real.sin θ) (Real.cos θ)) := by
  rw [← Quat.toMat_rotY]; exact IsRot_toMat _ (Quat.normSq_rotY θ)

theorem IsRot.dot_mulVec {m : M3 ℝ} (h : IsRot m) (u v : V3 ℝ) :
    (m.mulVec u).dot (m.mulVec v) = u.dot v := M3.dot_mulVec_mulVec h.tm u v

theorem IsRot.normSq_mulVec {m : M3 ℝ} (h : IsRot m) (v : V3 ℝ) :
    (m.mulVec v).normSq = v.normSq := h.dot_mulVec v v

theorem IsRot.cross_mulVec {m : M3 ℝ} (h : IsRot m) (a b : V3 ℝ) :
    (m.mulVec a).cross (m.mulVec b) = m.mulVec (a.cross b) := by
  rw [M3.cross_mulVec, h.cof]

theorem IsRot.cross_normSq {m : M3 ℝ} (h : IsRot m) (a b : V3 ℝ) :
    ((m.mulVec a).cross (m.mulVec b)).normSq = (a.cross b).normSq := by
  rw [h.cross_mulVec, h.normSq_mulVec]

theorem IsRot.norm_mulVec {m : M3 ℝ} (h : IsRot m) (a : V3 ℝ) : (m.mulVec a).norm = a.norm := by
  simp only [V3.norm, h.normSq_mulVec a]

theorem IsRot.normalize_mulVec {m : M3 ℝ} (h : IsRot m) (a : V3 ℝ) :
    (m.mulVec a).normalize = m.mulVec a.normalize := by
  unfold V3.normalize
  rw [h.norm_mulVec, M3.mulVec_divs]

/-- two orthonormal vectors and their cross product are the columns of a rotation matrix: the
Gram matrix is the identity and the determinant is `‖a × b‖² = 1` (Lagrange) -/
theorem IsRot_ofColumns {a b : V3 ℝ} (ha : a.dot a = 1) (hb : b.dot b = 1) (hab : a.dot b = 0) :
    IsRot (M3.ofColumns a b (a.cross b)) := by
  have hc : (a.cross b).dot (a.cross b) = 1 := by
    rw [← V3.normSq, V3.normSq_cross, V3.normSq, V3.normSq, ha, hb, hab]; ring
  apply IsRot.of_orthogonal_det
  · rw [M3.transpose_mul_ofColumns, ha, hb, hab, hc, V3.dot_comm b a, hab,
      V3.dot_comm (a.cross b), V3.dot_comm (a.cross b), V3.dot_cross_self_left,
      V3.dot_cross_self_right, M3.one_eq]
  · rw [M3.det_ofColumns, hc]

/-- For a rotation matrix the outer product of the axial vector `a = (m21 - m12, m02 - m20, m10 - m01)`
of `m - mᵀ` with itself is `(1 + tr m) (m + mᵀ - (tr m - 1) 1)`; with angle `θ` and axis `n` both sides are
`4 sin² θ n nᵀ`.  Each entry uses two cofactor equations and two orthogonality equations of `IsRot.Eqs`. -/
theorem IsRot.axial_outer {m : M3 ℝ} (h : IsRot m) :
    (m.m21 - m.m12) * (m.m21 - m.m12) = (1 + m.m00 + m.m11 + m.m22) * (1 + m.m00 - m.m11 - m.m22) ∧
    (m.m02 - m.m20) * (m.m02 - m.m20) = (1 + m.m00 + m.m11 + m.m22) * (1 - m.m00 + m.m11 - m.m22) ∧
    (m.m10 - m.m01) * (m.m10 - m.m01) = (1 + m.m00 + m.m11 + m.m22) * (1 - m.m00 - m.m11 + m.m22) ∧
    (m.m21 - m.m12) * (m.m02 - m.m20) = (1 + m.m00 + m.m11 + m.m22) * (m.m01 + m.m10) ∧
    (m.m21 - m.m12) * (m.m10 - m.m01) = (1 + m.m00 + m.m11 + m.m22) * (m.m02 + m.m20) ∧
    (m.m02 - m.m20) * (m.m10 - m.m01) = (1 + m.m00 + m.m11 + m.m22) * (m.m12 + m.m21) := by
  have e := h.eqs
  refine ⟨?_, ?_, ?_, ?_, ?_, ?_⟩
  · linear_combination (-2) * e.hk00 - e.hc00 + e.hr11 + e.hr22
  · linear_combination (-2) * e.hk11 - e.hc11 + e.hr00 + e.hr22
  · linear_combination (-2) * e.hk22 - e.hc22 + e.hr00 + e.hr11
  · linear_combination -e.hk01 - e.hk10 - e.hc01 - e.hr01
  · linear_combination -e.hk02 - e.hk20 - e.hc02 - e.hr02
  · linear_combination -e.hk12 - e.hk21 - e.hc12 - e.hr12

/-- the quaternion produced by branch 1 of `ofMat` (trace > 0), with `s` the square root and `u = 1/s` -/
noncomputable def qB1 (m : M3 ℝ) (s u : ℝ) : Quat ℝ :=
  ⟨s / 2, (m.m21 - m.m12) * u / 2, (m.m02 - m.m20) * u / 2, (m.m10 - m.m01) * u / 2⟩

/-- a product of two imaginary components of `qB1`, from an entry `x y = T c` of `axial_outer` and
`u² T = 1` -/
theorem qB1_prod {x y T c u : ℝ} (h : x * y = T * c) (h2 : u ^ 2 * T = 1) :
    x * u / 2 * (y * u / 2) = c / 4 := by
  linear_combination (u ^ 2 / 4) * h + (c / 4) * h2

/-- With the products of its components known (`ww`, `wx`, `qB1_prod`) every entry of `toMat` and the
norm are linear in the entries of `m`. -/
theorem qB1_spec (m : M3 ℝ) (h : IsRot m) (s u : ℝ)
    (hs : s ^ 2 = 1 + m.m00 + m.m11 + m.m22) (hu : s * u = 1) :
    (qB1 m s u).normSq = 1 ∧ (qB1 m s u).toMat = m := by
  obtain ⟨a00, a11, a22, a01, a02, a12⟩ := h.axial_outer
  have h2 : u ^ 2 * (1 + m.m00 + m.m11 + m.m22) = 1 := by
    linear_combination (-u ^ 2) * hs + (s * u + 1) * hu
  have ww : s / 2 * (s / 2) = (1 + m.m00 + m.m11 + m.m22) / 4 := by linear_combination hs / 4
  have wx : ∀ x : ℝ, s / 2 * (x * u / 2) = x / 4 := fun x => by linear_combination (x / 4) * hu
  simp only [qB1, Quat.normSq, Quat.toMat, lit2, ww, wx, qB1_prod a00 h2, qB1_prod a11 h2,
    qB1_prod a22 h2, qB1_prod a01 h2, qB1_prod a02 h2, qB1_prod a12 h2]
  refine ⟨by ring, ?_⟩
  apply M3.ext' <;> ring

/-- the trace-branch quaternion of `m · (toMat p)ᵀ`, times the unit quaternion `p`, is a unit
quaternion of `m`.  The three equations come as one conjunction so that each branch of `ofMat_spec` can
hand them over as one goal and close its six scalar identities by `ring`. -/
theorem ofMat_spec_of_eq {m : M3 ℝ} (h : IsRot m) (p : Quat ℝ) {t : ℝ} {q : Quat ℝ} (ht : 0 < t)
    (hpq : p.normSq = 1 ∧ t = 1 + (m.mul p.toMat.transpose).trace ∧
      q = (qB1 (m.mul p.toMat.transpose) (Real.sqrt t) (Real.sqrt t)⁻¹).mul p) :
    q.normSq = 1 ∧ q.toMat = m := by
  obtain ⟨hp, htr, rfl⟩ := hpq
  have hp' := IsRot_toMat p hp
  obtain ⟨h1, h2⟩ := qB1_spec _ (h.mul hp'.transpose) (Real.sqrt t) (Real.sqrt t)⁻¹
    (by rw [Real.sq_sqrt ht.le, htr]; simp only [M3.trace]; ring)
    (mul_inv_cancel₀ (Real.sqrt_pos.mpr ht).ne')
  exact ⟨by rw [Quat.normSq_mul, h1, hp, _root_.mul_one],
    by rw [Quat.toMat_mul, h2, M3.mul_assoc, hp'.tm, M3.mul_one]⟩

/-- The four branches are `ofMat_spec_of_eq` with `p = 1, i, j, k`: a turn by π about x, y, z
makes `m00`, `m11`, `m22` the positive part of the trace. -/
theorem Quat.ofMat_spec (m : M3 ℝ) (h : IsRot m) :
    (Quat.ofMat m).normSq = 1 ∧ (Quat.ofMat m).toMat = m := by
  unfold Quat.ofMat
  simp only [lit0, lit1, lit2, lit4, nsqrt_real]
  -- the branches differ in the turn `p` and in why the radicand is positive
  split_ifs with c1 c2 c3
  on_goal 1 => refine ofMat_spec_of_eq h ⟨1, 0, 0, 0⟩ (t := m.m00 + m.m11 + m.m22 + 1) (add_pos c1 one_pos) ?_
  on_goal 2 => refine ofMat_spec_of_eq h ⟨0, 1, 0, 0⟩ (t := 1 + m.m00 - m.m11 - m.m22) (by linarith [c2.1, c2.2]) ?_
  on_goal 3 =>
    have c4 : m.m00 ≤ m.m11 := not_lt.mp fun h0 => c2 ⟨h0, c3.trans h0⟩
    refine ofMat_spec_of_eq h ⟨0, 0, 1, 0⟩ (t := 1 + m.m11 - m.m00 - m.m22) (by linarith) ?_
  on_goal 4 =>
    have c4 : m.m00 ≤ m.m22 := not_lt.mp fun h0 => c2 ⟨(not_lt.mp c3).trans_lt h0, h0⟩
    refine ofMat_spec_of_eq h ⟨0, 0, 0, 1⟩ (t := 1 + m.m22 - m.m00 - m.m11) (by linarith) ?_
  all_goals
    simp only [Quat.normSq, M3.trace, qB1, Quat.mul, M3.mul, M3.transpose, Quat.toMat, lit2,
      Quat.mk.injEq, mul_zero, zero_mul, add_zero, zero_add, sub_zero]
    refine ⟨?_, ?_, ?_, ?_, ?_, ?_⟩ <;> ring

/-- `to_rotation_matrix ∘ from_rotation_matrix = id` on rotation matrices -/
theorem Quat.toMat_ofMat (m : M3 ℝ) (h : IsRot m) : (Quat.ofMat m).toMat = m :=
  (Quat.ofMat_spec m h).2

theorem Quat.normSq_ofMat (m : M3 ℝ) (h : IsRot m) : (Quat.ofMat m).normSq = 1 :=
  (Quat.ofMat_spec m h).1

theorem IsRot.exists_quat {m : M3 ℝ} (h : IsRot m) : ∃ q : Quat ℝ, q.normSq = 1 ∧ q.toMat = m :=
  ⟨Quat.ofMat m, Quat.normSq_ofMat m h, Quat.toMat_ofMat m h⟩

theorem Quat.rotate_ofMat (m : M3 ℝ) (h : IsRot m) (v : V3 ℝ) :
    (Quat.ofMat m).rotate v = m.mulVec v := by
  rw [Quat.rotate_eq_mulVec _ (Quat.normSq_ofMat m h), Quat.toMat_ofMat m h]

theorem Quat.eq_one_or_neg_one_of_toMat (r : Quat ℝ) (hr : r.normSq = 1)
    (h : r.toMat = M3.one) : r = Quat.one ∨ r = Quat.one.neg := by
  rw [Quat.normSq_eq] at hr
  have h00 := congrArg M3.m00 h
  have h11 := congrArg M3.m11 h
  have h22 := congrArg M3.m22 h
  simp only [Quat.toMat, M3.one, lit1] at h00 h11 h22
  -- the diagonal and the norm determine the four squares
  have hi : r.i = 0 := mul_self_eq_zero.mp (by linear_combination (hr + h00 - h11 - h22) / 4)
  have hj : r.j = 0 := mul_self_eq_zero.mp (by linear_combination (hr - h00 + h11 - h22) / 4)
  have hk : r.k = 0 := mul_self_eq_zero.mp (by linear_combination (hr - h00 - h11 + h22) / 4)
  have hw : (r.w - 1) * (r.w + 1) = 0 := by linear_combination (hr + h00 + h11 + h22) / 4
  rcases mul_eq_zero.mp hw with hw | hw
  · left
    apply Quat.ext' <;> simp only [Quat.one, lit0, lit1]
    exacts [sub_eq_zero.mp hw, hi, hj, hk]
  · right
    apply Quat.ext' <;> simp only [Quat.one, Quat.neg, lit0, lit1, neg_zero]
    exacts [eq_neg_of_add_eq_zero_left hw, hi, hj, hk]

/-- `toMat` is a double cover -/
theorem Quat.eq_or_eq_neg_of_toMat_eq (p q : Quat ℝ) (hp : p.normSq = 1) (hq : q.normSq = 1)
    (h : p.toMat = q.toMat) : p = q ∨ p = q.neg := by
  have hr : (p.mul q.conj).normSq = 1 := Quat.normSq_mul_unit p q.conj hp (Quat.normSq_conj_unit q hq)
  have hm : (p.mul q.conj).toMat = M3.one := by
    rw [Quat.toMat_mul, Quat.toMat_conj, h, Quat.toMat_mul_transpose q hq]
  have hpq : p = (p.mul q.conj).mul q := by
    rw [Quat.mul_assoc, Quat.conj_mul_self q hq, Quat.mul_one]
  rcases Quat.eq_one_or_neg_one_of_toMat _ hr hm with h1 | h1
  · left; rw [hpq, h1, Quat.one_mul]
  · right; rw [hpq, h1, Quat.neg_mul, Quat.one_mul]

theorem Quat.angleTo_congr_left (a b x : Quat ℝ) (ha : a.normSq = 1) (hb : b.normSq = 1)
    (h : a.toMat = b.toMat) : Quat.angleTo a x = Quat.angleTo b x := by
  rcases Quat.eq_or_eq_neg_of_toMat_eq a b ha hb h with e | e
  · rw [e]
  · rw [e, Quat.angleTo_neg_left]

/-- the determinant of `q.toMat` is `normSq³` -/
theorem Quat.normSq_of_isRot_toMat (q : Quat ℝ) (h : IsRot q.toMat) : q.normSq = 1 := by
  have e : q.normSq ^ 3 = 1 := by rw [← h.det, Quat.det_toMat_eq]; ring
  exact (pow_eq_one_iff_of_nonneg (Quat.normSq_nonneg q) (by norm_num)).mp e

theorem Quat.ofMat_toMat (q : Quat ℝ) (h : q.normSq = 1) :
    Quat.ofMat q.toMat = q ∨ Quat.ofMat q.toMat = q.neg :=
  Quat.eq_or_eq_neg_of_toMat_eq _ q (Quat.normSq_ofMat _ (IsRot_toMat q h)) h
    (Quat.toMat_ofMat _ (IsRot_toMat q h))

end Opw
