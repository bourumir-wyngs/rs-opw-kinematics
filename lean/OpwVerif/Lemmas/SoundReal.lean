/-
  Helper lemmas for C01c: what the run-time cross-check (`Sound`, `Sound5`) says over ℝ, and how it
  survives (a) the `SINGULARITY_SHIFT` of the pose in `inverse_continuing` (`sound_shift`) and (b) the
  final `normalize_near`, for INTEGER-valued sign corrections (`SignsInt`).
-/
import OpwVerif.Lemmas.Nearest
import OpwVerif.Lemmas.Flip
namespace Opw.SoundReal
open Opw Opw.Wrist

theorem comparePoses_iff (a b : Iso ℝ) (dT aT : ℝ) :
    comparePoses a b dT aT = true ↔
      (a.t.sub b.t).norm ≤ dT ∧ |Quat.angleTo a.q b.q| ≤ aT := by
  -- the two early returns are a conjunction
  have key : ∀ x y : Bool,
      (if (!x) = true then false else if (!y) = true then false else true) = (x && y) := by decide
  unfold comparePoses
  rw [key, Bool.and_eq_true, decide_eq_true_eq, decide_eq_true_eq, nabs_real, nabs_real,
    abs_of_nonneg (V3.norm_nonneg _)]

theorem sound_iff (p : Params ℝ) (pose : Iso ℝ) (s : J6 ℝ) :
    Sound p pose s ↔
      (pose.t.sub (forward p s).t).norm ≤ distTol ∧
        |Quat.angleTo pose.q (forward p s).q| ≤ angTol :=
  comparePoses_iff _ _ _ _

theorem sound5_iff (p : Params ℝ) (pose : Iso ℝ) (s : J6 ℝ) :
    Sound5 p pose s ↔ (pose.t.sub (forward p s).t).norm ≤ distTol := by
  unfold Sound5 compareXyz
  exact decide_eq_true_iff

/-- the `f64` nearest to `1e-6`, as `Generated/Consts.lean` has it from the source of this run; the bounds below
are stated for this value, so a run on a source with another `DISTANCE_TOLERANCE` breaks here, by intent -/
theorem distTol_eq : (distTol : ℝ) = 4722366482869645 * (2 : ℝ) ^ (-72 : ℤ) := by
  show ((Gen.distTolM : ℤ) : ℝ) * (2 : ℝ) ^ Gen.distTolE = _
  unfold Gen.distTolM Gen.distTolE
  norm_num

theorem angTol_eq : (angTol : ℝ) = 4722366482869645 * (2 : ℝ) ^ (-72 : ℤ) := by
  show ((Gen.angTolM : ℤ) : ℝ) * (2 : ℝ) ^ Gen.angTolE = _
  unfold Gen.angTolM Gen.angTolE
  norm_num

theorem singShift_real : (singShift : ℝ) = 4722366482869645 * (2 : ℝ) ^ (-75 : ℤ) := by
  show ((Gen.singShiftM : ℤ) : ℝ) * (2 : ℝ) ^ Gen.singShiftE = _
  unfold Gen.singShiftM Gen.singShiftE
  norm_num

theorem singShift_nonneg : (0 : ℝ) ≤ singShift := by
  rw [singShift_real]; positivity

theorem singShift_eq_distTol_div : (singShift : ℝ) = distTol / 8 := by
  rw [singShift_real, distTol_eq]
  norm_num

/-- `DISTANCE_TOLERANCE` is the double nearest to `1e-6`, which lies just below it -/
theorem distTol_le : (distTol : ℝ) ≤ 1 / 10 ^ 6 := by
  rw [distTol_eq]; norm_num

theorem angTol_le : (angTol : ℝ) ≤ 1 / 10 ^ 6 := by
  rw [angTol_eq]; norm_num

theorem singShift_le : (singShift : ℝ) ≤ 125 / 10 ^ 9 := by
  rw [singShift_eq_distTol_div]
  exact (div_le_div_of_nonneg_right distTol_le (by norm_num)).trans_eq (by norm_num)

/-- 1 µm + 0.125 µm -/
theorem distTol_add_singShift_le : (distTol : ℝ) + singShift ≤ 1125 / 10 ^ 9 :=
  (add_le_add distTol_le singShift_le).trans_eq (by norm_num)

theorem sqrt_mul_self' {x : ℝ} (h : 0 ≤ x) : Real.sqrt (x * x) = x := Real.sqrt_mul_self h

theorem norm_shift_eq {d : V3 ℝ} (hd : d ∈ (shifts : List (V3 ℝ))) :
    d.norm = 0 ∨ d.norm = singShift := by
  have h0 := singShift_nonneg
  simp only [shifts, List.mem_cons, List.not_mem_nil, or_false] at hd
  rcases hd with rfl | rfl | rfl | rfl <;>
    simp only [V3.norm, V3.normSq, V3.dot, nsqrt_real, lit0, mul_zero, add_zero, zero_add,
      Real.sqrt_zero, Real.sqrt_mul_self h0, true_or, or_true]

theorem norm_shift_le {d : V3 ℝ} (hd : d ∈ (shifts : List (V3 ℝ))) : d.norm ≤ singShift := by
  rcases norm_shift_eq hd with h | h <;> rw [h]
  exact singShift_nonneg

theorem shiftPose_sub (pose : Iso ℝ) (d f : V3 ℝ) :
    pose.t.sub f = ((shiftPose pose d).t.sub f).add d.neg := by
  simp only [shiftPose, V3.sub, V3.add, V3.neg, add_sub_right_comm, add_neg_cancel_right]

theorem dist_shift_le (pose : Iso ℝ) (d f : V3 ℝ) :
    (pose.t.sub f).norm ≤ ((shiftPose pose d).t.sub f).norm + d.norm := by
  rw [shiftPose_sub pose d f]
  exact (V3.norm_add_le _ _).trans_eq (by rw [V3.norm_neg])

/-- cross-checked against a shifted pose ⇒ within `distTol + singShift` / `angTol` of the requested
pose (the shift does not touch the rotation) -/
theorem sound_shift {p : Params ℝ} {pose : Iso ℝ} {d : V3 ℝ} {s : J6 ℝ}
    (hd : d ∈ (shifts : List (V3 ℝ))) (h : Sound p (shiftPose pose d) s) :
    (pose.t.sub (forward p s).t).norm ≤ distTol + singShift ∧
      |Quat.angleTo pose.q (forward p s).q| ≤ angTol := by
  obtain ⟨h1, h2⟩ := (sound_iff _ _ _).mp h
  refine ⟨?_, h2⟩
  exact (dist_shift_le pose d (forward p s).t).trans (add_le_add h1 (norm_shift_le hd))

/-- every sign correction is an integer (the code stores `i8` values, cast to `f64`; the
constructors use `±1`) -/
def SignsInt (p : Params ℝ) : Prop :=
  (∃ n : ℤ, p.signs.j1 = n) ∧ (∃ n : ℤ, p.signs.j2 = n) ∧ (∃ n : ℤ, p.signs.j3 = n) ∧
  (∃ n : ℤ, p.signs.j4 = n) ∧ (∃ n : ℤ, p.signs.j5 = n) ∧ (∃ n : ℤ, p.signs.j6 = n)

theorem isInt_of_sign {s : ℝ} (h : s = 1 ∨ s = -1) : ∃ n : ℤ, s = n := by
  rcases h with rfl | rfl
  · exact ⟨1, by norm_num⟩
  · exact ⟨-1, by norm_num⟩

theorem SignsInt.of_signsOk {p : Params ℝ} (h : C02.SignsOk p) : SignsInt p :=
  ⟨isInt_of_sign h.1, isInt_of_sign h.2.1, isInt_of_sign h.2.2.1, isInt_of_sign h.2.2.2.1,
    isInt_of_sign h.2.2.2.2.1, isInt_of_sign h.2.2.2.2.2⟩

theorem thetaOf_turnEq (p : Params ℝ) (hs : SignsInt p) {a b : J6 ℝ} (h : J6TurnEq a b) :
    J6TurnEq (thetaOf p a) (thetaOf p b) := by
  obtain ⟨s1, s2, s3, s4, s5, s6⟩ := hs
  obtain ⟨h1, h2, h3, h4, h5, h6⟩ := h
  exact ⟨(h1.mul_int s1).sub_const _, (h2.mul_int s2).sub_const _,
    (h3.mul_int s3).sub_const _, (h4.mul_int s4).sub_const _,
    (h5.mul_int s5).sub_const _, (h6.mul_int s6).sub_const _⟩

theorem forward_turnEq (p : Params ℝ) (hs : SignsInt p) {a b : J6 ℝ} (h : J6TurnEq a b) :
    forward p a = forward p b :=
  C02.forward_congr p (thetaOf_turnEq p hs h)

theorem normalizeNear_turnEq (s prev : J6 ℝ) : J6TurnEq (s.normalizeNear prev) s :=
  ⟨Nearest.normalizeNear_turn s.j1 prev.j1, Nearest.normalizeNear_turn s.j2 prev.j2,
   Nearest.normalizeNear_turn s.j3 prev.j3, Nearest.normalizeNear_turn s.j4 prev.j4,
   Nearest.normalizeNear_turn s.j5 prev.j5, Nearest.normalizeNear_turn s.j6 prev.j6⟩

theorem forward_normalizeNear (p : Params ℝ) (hs : SignsInt p) (s prev : J6 ℝ) :
    forward p (s.normalizeNear prev) = forward p s :=
  forward_turnEq p hs (normalizeNear_turnEq s prev)

/-- without integer signs the statement is false: sign `1/2` turns a whole turn of the joint into
half a turn of θ -/
theorem mul_half_not_turnEq : ¬ TurnEq ((0 + 2 * Real.pi * (1 : ℤ)) * (1 / 2)) (0 * (1 / 2)) := by
  -- the left side is `π`, the right side `0`
  rw [Int.cast_one, mul_one, zero_add, mul_one_div, mul_div_cancel_left₀ _ two_ne_zero, zero_mul]
  exact fun h => not_turnEq_add_pi 0 (by rw [zero_add]; exact h.symm)

end Opw.SoundReal
