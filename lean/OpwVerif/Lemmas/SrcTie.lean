/-
  The literal ties of the closed-form formulas, for any number type (hence also for the `Float` reading):
  the definitions `tools/rs2lean.py` and `tools/rs2lean_ctl.py` print from the source text of this run into
  `Generated/Src.lean` and `Generated/SrcCtl.lean` are the model's, by `rfl`.  `Props/Tie.lean` restates them
  over ℝ up to ring normalisation and ties everything else.
-/
import OpwVerif.Generated.Src
import OpwVerif.Generated.SrcCtl
namespace Opw
variable {R : Type} [OpwNum R]

/-- sign/offset map of `forward` = `thetaOf` -/
theorem thetaOfSrc_eq (p : Params R) (j : J6 R) : Src.thetaOfSrc p j = thetaOf p j := rfl

/-- closed form of `forward` (rotation `r_0c * r_ce` and translation) = `forwardTheta` -/
theorem forwardThetaSrc_eq (p : Params R) (q : J6 R) : Src.forwardThetaSrc p q = forwardTheta p q := rfl

/-- the eight raw θ vectors of `inverse_intern` = `thetaCandidates` -/
theorem thetaCandidatesSrc_eq (p : Params R) (pose : Iso R) :
    Src.thetaCandidatesSrc p pose = thetaCandidates p pose := rfl

/-- the sign/offset map written a second time in `forward_with_joint_poses` = `thetaOf` -/
theorem thetaOfChainSrc_eq (p : Params R) (j : J6 R) : Src.thetaOfChainSrc p j = thetaOf p j := rfl

/-- the nested `adjust` of `normalize_near` (called with `two_pi = 2π`) -/
theorem adjustSrc_eq (now prev : R) : SrcCtl.adjustSrc now prev twoPi = adjustNear now prev := rfl

end Opw
