/-
  Joint limits (`constraints.rs`) over ℝ: `insideBounds` compares the distance on the circle (`circ`:
  the least `|a − c + 2πk|`) with the tolerance; `unwrapTo` computes the top of the arc
  (`C07.unwrapTop`), and `centerTol` its midpoint and half width.  The one definition
  `Opw.C07.unwrapTop` is declared into `Opw.C07`: `Props/C07.lean` and the documents cite it so.
-/
import OpwVerif.Kin
import OpwVerif.Lemmas.Angle
namespace Opw.Limits
open Real Angle

theorem lit1_real : (@OfNat.ofNat ℝ 1 instOfNatOpw) = (1 : ℝ) := lit1

/-- floor form of `fmod` (the branch the model takes for a non-negative quotient) -/
noncomputable def fmodR (x y : ℝ) : ℝ := x - y * ⌊x / y⌋

/-- the folded circular distance computed by `insideBounds` -/
noncomputable def circ (a c : ℝ) : ℝ :=
  let r := fmodR |a - c| (2 * π); if r > π then 2 * π - r else r

/-- over `ℝ` the model's `insideBounds` is the test `circ a c ≤ tol` (the `isInfinite` branch is dead) -/
theorem insideBounds_real (a c tol : ℝ) : insideBounds a c tol = decide (circ a c ≤ tol) := by
  unfold insideBounds isInfinite
  simp only [fin_real, isNaN_real, twoPi_real, pi_def_real, nabs_real, Bool.not_true, Bool.false_and,
    Bool.false_eq_true, if_false,
    nfmod_of_nonneg (div_nonneg (abs_nonneg (a - c)) two_pi_pos.le)]
  rfl -- what is left is the body of `circ`

theorem fmodR_nonneg (x : ℝ) {y : ℝ} (hy : 0 < y) : 0 ≤ fmodR x y := floorRem_nonneg x hy

theorem fmodR_lt (x : ℝ) {y : ℝ} (hy : 0 < y) : fmodR x y < y := floorRem_lt x hy

theorem circ_spec (a c : ℝ) : circ a c ≤ π ∧ ∃ k : ℤ, |a - c + 2 * π * k| = circ a c := by
  have h0 := fmodR_nonneg |a - c| two_pi_pos
  have h1 := fmodR_lt |a - c| two_pi_pos
  -- a representative of `|a - c|` gives one of `a - c` at the same distance from `0`
  have key : ∀ n : ℤ, ∃ k : ℤ, |a - c + 2 * π * k| = |(|a - c| - 2 * π * n)| := fun n => by
    rcases abs_choice (a - c) with e | e <;> rw [e]
    · exact ⟨-n, by rw [Int.cast_neg, mul_neg, ← sub_eq_add_neg]⟩
    · exact ⟨n, by rw [← abs_neg, neg_add']⟩
  unfold circ
  unfold fmodR at h0 h1 ⊢
  dsimp only
  split_ifs with h
  · -- `2π − r ≤ π` as `2π = π + π ≤ π + r`
    refine ⟨sub_le_iff_le_add.2 ((two_mul π).trans_le (add_le_add_right h.le π)),
      (key (⌊|a - c| / (2 * π)⌋ + 1)).imp fun k hk => ?_⟩
    rw [hk, Int.cast_add, Int.cast_one, mul_add, mul_one, ← sub_sub, abs_sub_comm,
      abs_of_nonneg (sub_nonneg.2 h1.le)]
  · exact ⟨not_lt.1 h, (key ⌊|a - c| / (2 * π)⌋).imp fun k hk => by rw [hk, abs_of_nonneg h0]⟩

theorem circ_le_pi (a c : ℝ) : circ a c ≤ π := (circ_spec a c).1

theorem circ_attained (a c : ℝ) : ∃ k : ℤ, |a - c + 2 * π * k| = circ a c := (circ_spec a c).2

theorem circ_le_all (a c : ℝ) (k : ℤ) : circ a c ≤ |a - c + 2 * π * k| := by
  obtain ⟨k0, h0⟩ := circ_attained a c
  have h := abs_le_abs_add_turn (h0.trans_le (circ_le_pi a c)) (k - k0)
  rwa [h0, Int.cast_sub, mul_sub, add_add_sub_cancel] at h

theorem circ_le_iff (a c tol : ℝ) : circ a c ≤ tol ↔ ∃ k : ℤ, |a + 2 * π * k - c| ≤ tol := by
  simp only [add_sub_right_comm]
  exact ⟨fun h => (circ_attained a c).imp fun k hk => hk.trans_le h,
    fun ⟨k, hk⟩ => (circ_le_all a c k).trans hk⟩

theorem circ_congr {a c a' c' : ℝ} (k : ℤ) (h : a' - c' = a - c + 2 * π * k) :
    circ a' c' = circ a c := by
  have le : ∀ {a c a' c' : ℝ} (k : ℤ), a' - c' = a - c + 2 * π * k → circ a' c' ≤ circ a c := by
    intro a c a' c' k h
    obtain ⟨j, hj⟩ := circ_attained a c
    have := circ_le_all a' c' (j - k)
    rwa [h, add_assoc, ← mul_add, ← Int.cast_add, add_sub_cancel, hj] at this
  exact le_antisymm (le k h) (le (-k) (by rw [h, Int.cast_neg, mul_neg, add_neg_cancel_right]))

theorem insideBounds_real_iff (a c tol : ℝ) :
    insideBounds a c tol = true ↔ ∃ k : ℤ, |a + 2 * π * k - c| ≤ tol := by
  rw [insideBounds_real, decide_eq_true_eq, circ_le_iff]

theorem insideBounds_of_pi_le (x c : ℝ) {tol : ℝ} (h : π ≤ tol) : insideBounds x c tol = true := by
  rw [insideBounds_real, decide_eq_true_eq]
  exact (circ_le_pi x c).trans h

theorem abs_mid_le_iff (y f u : ℝ) : |y - (f + u) / 2| ≤ (u - f) / 2 ↔ f ≤ y ∧ y ≤ u := by
  rw [abs_sub_le_iff, sub_le_iff_le_add, sub_le_comm, and_comm,
    show (u - f) / 2 + (f + u) / 2 = u by ring, show (f + u) / 2 - (u - f) / 2 = f by ring]

/-- the midpoint of an interval moves with the interval -/
theorem mid_shift (f u s : ℝ) : (f + s + (u + s)) / 2 = (f + u) / 2 + s := by ring

theorem insideBounds_mid_iff (x f u : ℝ) :
    insideBounds x ((f + u) / 2) ((u - f) / 2) = true ↔
      ∃ k : ℤ, f ≤ x + 2 * π * k ∧ x + 2 * π * k ≤ u := by
  rw [insideBounds_real_iff]
  exact exists_congr fun k => abs_mid_le_iff _ _ _

theorem insideBounds_add_turn (x c tol : ℝ) (k : ℤ) :
    insideBounds (x + 2 * π * k) c tol = insideBounds x c tol := by
  rw [insideBounds_real, insideBounds_real, circ_congr k (add_sub_right_comm _ _ _)]

theorem insideBounds_add_turn_centre (x c tol : ℝ) (m : ℤ) :
    insideBounds x (c + 2 * π * m) tol = insideBounds x c tol := by
  rw [insideBounds_real, insideBounds_real, circ_congr (a := x) (c := c) (-m)
    (by rw [Int.cast_neg, mul_neg, ← sub_eq_add_neg, sub_sub])]

/-- Upper end of the arc that starts at `f`: `t` itself when `f ≤ t`; when `t < f` the least
`t + 2πn` (`n : ℕ`) that is `≥ f`.  Defined by a ceiling, not by the loop (`unwrapTo_eq`). -/
noncomputable def _root_.Opw.C07.unwrapTop (f t : ℝ) : ℝ :=
  if t < f then t + 2 * π * (⌈(f - t) / (2 * π)⌉₊ : ℝ) else t

open C07 (unwrapTop)

theorem unwrapTop_of_le {f t : ℝ} (h : f ≤ t) : unwrapTop f t = t := if_neg (not_lt.mpr h)

/-- uniform closed form (the ceiling is `0` when `f ≤ t`) -/
theorem unwrapTop_eq (f t : ℝ) : unwrapTop f t = t + 2 * π * (⌈(f - t) / (2 * π)⌉₊ : ℝ) := by
  unfold unwrapTop
  split_ifs with h
  · rfl
  · have h0 : (f - t) / (2 * π) ≤ 0 :=
      div_nonpos_of_nonpos_of_nonneg (sub_nonpos.2 (not_lt.1 h)) two_pi_pos.le
    rw [Nat.ceil_eq_zero.2 h0, Nat.cast_zero, mul_zero, add_zero]

theorem unwrapTop_ge (f t : ℝ) : f ≤ unwrapTop f t := by
  rw [unwrapTop_eq]
  exact sub_le_iff_le_add'.1 ((div_le_iff₀' two_pi_pos).1 (Nat.le_ceil _))

theorem unwrapTop_sub_lt {f t : ℝ} (h : t < f) : unwrapTop f t - 2 * π < f := by
  have h0 : 0 ≤ (f - t) / (2 * π) := div_nonneg (sub_nonneg.2 h.le) two_pi_pos.le
  have hc := Nat.ceil_lt_add_one h0
  rw [div_add_one two_pi_pos.ne', lt_div_iff₀' two_pi_pos, sub_add_eq_add_sub] at hc
  rw [unwrapTop_eq]
  exact sub_lt_iff_lt_add.2 (lt_sub_iff_add_lt'.1 hc)

theorem turn_count_unique {a b : ℝ} {n m : ℕ}
    (hn1 : a ≤ b + 2 * π * n) (hn2 : b + 2 * π * n - 2 * π < a)
    (hm1 : a ≤ b + 2 * π * m) (hm2 : b + 2 * π * m - 2 * π < a) : n = m := by
  have key : ∀ {x y : ℝ}, a ≤ b + x → b + y - 2 * π < a → y - x < 2 * π := fun h1 h2 => by linarith
  have h : ((n : ℤ) - m) = 0 := turn_eq_zero (by
    rw [Int.cast_sub, Int.cast_natCast, Int.cast_natCast, mul_sub, abs_sub_lt_iff]
    exact ⟨key hm1 hn2, key hn1 hm2⟩)
  exact Int.natCast_inj.1 (sub_eq_zero.1 h)

theorem unwrapTop_unique {f t : ℝ} (h : t < f) {n : ℕ} (h1 : f ≤ t + 2 * π * n)
    (h2 : t + 2 * π * n - 2 * π < f) : unwrapTop f t = t + 2 * π * n := by
  have h3 := unwrapTop_ge f t
  have h4 := unwrapTop_sub_lt h
  rw [unwrapTop_eq] at h3 h4 ⊢
  rw [turn_count_unique h3 h4 h1 h2]

theorem unwrapTop_of_wrap {f t : ℝ} (h1 : t < f) (h2 : f ≤ t + 2 * π) : unwrapTop f t = t + 2 * π := by
  rw [unwrapTop_unique h1 (n := 1) (by rwa [Nat.cast_one, mul_one])
      (by rwa [Nat.cast_one, mul_one, add_sub_cancel_right]),
    Nat.cast_one, mul_one]

theorem unwrapTop_add_turn (f t : ℝ) (m : ℤ) :
    unwrapTop (f + 2 * π * m) (t + 2 * π * m) = unwrapTop f t + 2 * π * m := by
  rw [unwrapTop_eq, unwrapTop_eq, add_sub_add_right_eq_sub, add_right_comm]

theorem unwrapTo_real_lt (n : ℕ) {a b : ℝ} (h : b < a) :
    unwrapTo (n + 1) a b = unwrapTo n a (b + 2 * π) := by
  rw [unwrapTo, if_pos h, twoPi_real]

theorem unwrapTo_real_ge (n : ℕ) {a b : ℝ} (h : a ≤ b) : unwrapTo (n + 1) a b = b := by
  rw [unwrapTo, if_neg (not_lt.mpr h)]

theorem unwrapTo_eq (fuel : ℕ) (a b : ℝ) (h : (a - b) / (2 * π) < fuel) :
    unwrapTo fuel a b = unwrapTop a b := by
  induction fuel generalizing b with
  | zero =>
    rw [Nat.cast_zero, div_lt_iff₀ two_pi_pos, zero_mul, sub_neg] at h
    rw [unwrapTo, unwrapTop_of_le h.le]
  | succ n ih =>
    rcases lt_or_ge b a with hba | hab
    · -- one turn further on, one turn less to go: `⌈x - 1⌉₊ = ⌈x⌉₊ - 1` with `⌈x⌉₊ > 0`
      have hx : (a - (b + 2 * π)) / (2 * π) = (a - b) / (2 * π) - 1 := by
        rw [← sub_sub, sub_div, div_self two_pi_pos.ne']
      have hpos : 0 < (a - b) / (2 * π) := div_pos (sub_pos.2 hba) two_pi_pos
      have hn : (a - (b + 2 * π)) / (2 * π) < n := by
        rw [hx, sub_lt_iff_lt_add, ← Nat.cast_succ]
        exact h
      rw [unwrapTo_real_lt n hba, ih _ hn, unwrapTop_eq, unwrapTop_eq, hx, Nat.ceil_sub_one,
        Nat.cast_pred (Nat.ceil_pos.2 hpos)]
      ring
    · rw [unwrapTo_real_ge n hab, unwrapTop_of_le hab]

theorem fuel_of_abs_le {f t : ℝ} (hf : |f| ≤ 4 * π) (ht : |t| ≤ 4 * π) :
    (f - t) / (2 * π) < (normFuel : ℝ) := by
  rw [div_lt_iff₀ two_pi_pos, normFuel, Nat.cast_ofNat]
  linarith [(abs_le.mp hf).2, (abs_le.mp ht).1, pi_pos]

theorem centerTol_real_lt {f t : ℝ} (h : f < t) : centerTol f t = ((f + t) / 2, (t - f) / 2) := by
  unfold centerTol
  simp only [feq_real, ne_of_lt h, decide_false, Bool.false_eq_true, if_false]
  rw [if_pos h]

theorem centerTol_real {f t : ℝ} (hne : f ≠ t) (hfuel : (f - t) / (2 * π) < (normFuel : ℝ)) :
    centerTol f t = ((f + unwrapTop f t) / 2, (unwrapTop f t - f) / 2) := by
  rcases lt_or_gt_of_ne hne with h | h
  · rw [centerTol_real_lt h, unwrapTop_of_le h.le]
  · unfold centerTol
    simp only [feq_real, hne, decide_false, Bool.false_eq_true, if_false, if_neg (not_lt.mpr h.le),
      lit2, unwrapTo_eq _ _ _ hfuel]

theorem centerTol_shift {f t : ℝ} (hne : f ≠ t) (hfuel : (f - t) / (2 * π) < (normFuel : ℝ))
    (m : ℤ) :
    centerTol (f + 2 * π * m) (t + 2 * π * m) =
      ((centerTol f t).1 + 2 * π * m, (centerTol f t).2) := by
  rw [centerTol_real (fun h => hne (add_right_cancel h)) (by rwa [add_sub_add_right_eq_sub]),
    centerTol_real hne hfuel, unwrapTop_add_turn, mid_shift, add_sub_add_right_eq_sub]

theorem centerTol_tol_nonneg {f t : ℝ} (hne : f ≠ t) (hfuel : (f - t) / (2 * π) < (normFuel : ℝ)) :
    0 ≤ (centerTol f t).2 := by
  rw [centerTol_real hne hfuel]
  exact div_nonneg (sub_nonneg.2 (unwrapTop_ge f t)) zero_le_two

theorem compliant_mk' {R : Type} [OpwNum R] (fr tu : J6 R) (w : R) (a : J6 R) :
    (Constraints.mk' fr tu w).compliant a = true ↔
      insideBounds a.j1 (centerTol fr.j1 tu.j1).1 (centerTol fr.j1 tu.j1).2 = true ∧
      insideBounds a.j2 (centerTol fr.j2 tu.j2).1 (centerTol fr.j2 tu.j2).2 = true ∧
      insideBounds a.j3 (centerTol fr.j3 tu.j3).1 (centerTol fr.j3 tu.j3).2 = true ∧
      insideBounds a.j4 (centerTol fr.j4 tu.j4).1 (centerTol fr.j4 tu.j4).2 = true ∧
      insideBounds a.j5 (centerTol fr.j5 tu.j5).1 (centerTol fr.j5 tu.j5).2 = true ∧
      insideBounds a.j6 (centerTol fr.j6 tu.j6).1 (centerTol fr.j6 tu.j6).2 = true := by
  simp only [Constraints.compliant, Constraints.mk', J6.zipWith, Bool.and_eq_true, and_assoc]

theorem centerTol_of_feq {R : Type} [OpwNum R] (a b : R) (h : feq a b = true) :
    centerTol a b = (0, infTol) := by
  unfold centerTol
  rw [if_pos h]

end Opw.Limits
