/-
  Helper lemmas for C12 (Cartesian stroke planning, model `Cartesian.lean`).  The flag operations get
  lemmas in variables (any bit values), from which the facts about the concrete masks are read off.
  `stepAdaptive` and `cartesianTrace` get one statement each, by the function's own induction
  (`stepAdaptive_chain`, `cartesianTrace_segs`); the theorems of C12 are read off these.  The lemmas
  over `ℝ` say that interpolated and bisection poses lie on the straight segment.
-/
import OpwVerif.Cartesian
import OpwVerif.Lemmas.GeomReal
namespace Opw.Cart
variable {R : Type} [OpwNum R]

/-! `set_flag` moves the quotient by `b` to the odd member of its pair `{2k, 2k+1}`, `clear_flag` to
the even one; the remainder stays.  So the bit `b` itself is set or cleared, and every bit that is
an even multiple of `b`, or of which `b` is an even multiple, is left alone. -/

theorem hasFlag_iff {f b : Nat} : hasFlag f b = true ↔ f / b % 2 = 1 := beq_iff_eq

theorem setFlag_div (f : Nat) {b : Nat} (hb : 0 < b) : setFlag f b / b = 2 * (f / b / 2) + 1 := by
  have hq := Nat.div_add_mod (f / b) 2
  unfold setFlag; split
  · next h => rw [hasFlag_iff.1 h] at hq; exact hq.symm
  · next h =>
    rw [Nat.mod_two_ne_one.1 (mt hasFlag_iff.2 h)] at hq
    rw [Nat.add_div_right f hb]; exact congrArg (· + 1) hq.symm

theorem clearFlag_div (f b : Nat) : clearFlag f b / b = 2 * (f / b / 2) := by
  have hq := Nat.div_add_mod (f / b) 2
  unfold clearFlag; split
  · next h =>
    rw [hasFlag_iff.1 h] at hq
    have := Nat.sub_mul_div f b 1
    rw [Nat.mul_one] at this
    rw [this]; exact congrArg (· - 1) hq.symm
  · next h => rw [Nat.mod_two_ne_one.1 (mt hasFlag_iff.2 h)] at hq; exact hq.symm

theorem clearFlag_mod (f b : Nat) : clearFlag f b % b = f % b := by
  unfold clearFlag; split
  · next h =>
    have : 0 < f / b := Nat.pos_of_ne_zero fun h0 => by
      rw [hasFlag_iff, h0] at h
      exact absurd h (by decide)
    exact (Nat.mod_eq_sub_mod (Nat.div_pos_iff.1 this).2).symm
  · rfl

theorem hasFlag_setFlag_self (f : Nat) {b : Nat} (hb : 0 < b) : hasFlag (setFlag f b) b = true := by
  rw [hasFlag_iff, setFlag_div f hb, Nat.mul_add_mod_self_left]

theorem hasFlag_clearFlag_self (f b : Nat) : hasFlag (clearFlag f b) b = false := by
  rw [← Bool.not_eq_true, hasFlag_iff, clearFlag_div, Nat.mul_mod_right]; decide

/-- A bit `b'` that is an even multiple of `b` reads the quotient by `b` halved; one of which `b` is
an even multiple reads the remainder by `b`.  (Two different powers of two are related in one of
these ways.) -/
theorem hasFlag_congr {b b' : Nat} (h : b * 2 ∣ b' ∨ b' * 2 ∣ b) {f g : Nat}
    (hd : f / b / 2 = g / b / 2) (hm : f % b = g % b) : hasFlag f b' = hasFlag g b' := by
  rw [Bool.eq_iff_iff, hasFlag_iff, hasFlag_iff]
  rcases h with ⟨c, rfl⟩ | ⟨c, rfl⟩
  · rw [← Nat.div_div_eq_div_mul, ← Nat.div_div_eq_div_mul, ← Nat.div_div_eq_div_mul,
      ← Nat.div_div_eq_div_mul, hd]
  · have key : ∀ x, x / b' % 2 = x % (b' * 2 * c) / b' % 2 := fun x => by
      rw [Nat.mul_assoc, Nat.mod_mul_right_div_self, Nat.mod_mod_of_dvd _ (Dvd.intro c rfl)]
    rw [key f, key g, hm]

theorem hasFlag_clearFlag_of_ne {b b' : Nat} (h : b * 2 ∣ b' ∨ b' * 2 ∣ b) (f : Nat) :
    hasFlag (clearFlag f b) b' = hasFlag f b' :=
  hasFlag_congr h (by rw [clearFlag_div]; exact Nat.mul_div_cancel_left _ (by decide))
    (clearFlag_mod f b)

/-- flags of the waypoints of a transition that are not its last one -/
def interFlags (f : Nat) : Nat := clearFlag (clearFlag (setFlag f flagLinInterp) flagTrace) flagPark

theorem extensionFlags_succ (f n : Nat) :
    extensionFlags f (n + 1) = List.replicate n (interFlags f) ++ [f] := by
  unfold extensionFlags
  rw [List.range_succ, List.map_append, List.map_singleton, if_neg (Nat.lt_irrefl _)]
  congr 1
  conv_rhs => rw [← List.length_range (n := n)]
  exact List.map_eq_replicate_iff.2 fun p hp => if_pos (Nat.succ_lt_succ (List.mem_range.1 hp))

/-- the cost test of `step_adaptive_linear_transition` accepts the pair `x`, `y` -/
def CostOk (cfg : CartCfg R) (x y : J6 R) : Prop :=
  decide (transitionCosts x y cfg.coefficients ≤ cfg.maxTransitionCost) = true

/-- `Bisect half a b p`: `p` is `b` or is reached from the segment `a`–`b` by repeatedly replacing one
end by the interpolated pose `a.interpolate b half` (the targets of the recursive calls) -/
inductive Bisect (half : R) : APose R → APose R → APose R → Prop
  | target (a b : APose R) : Bisect half a b b
  | left {a b p : APose R} : Bisect half a (a.interpolate b half) p → Bisect half a b p
  | right {a b p : APose R} : Bisect half (a.interpolate b half) b p → Bisect half a b p

/-- what `step_adaptive_linear_transition` guarantees between a joint vector and the one it pushes next;
`P` says which poses the next one may solve -/
def StepRel (cfg : CartCfg R) (ik : Iso R → J6 R → List (J6 R)) (P : APose R → Prop) (x y : J6 R) : Prop :=
  CostOk cfg x y ∧ ∃ p, P p ∧ y ∈ ik p.pose x

theorem StepRel.mono {cfg : CartCfg R} {ik : Iso R → J6 R → List (J6 R)} {P Q : APose R → Prop}
    (hPQ : ∀ p, P p → Q p) {x y : J6 R} (h : StepRel cfg ik P x y) : StepRel cfg ik Q x y :=
  ⟨h.1, h.2.imp fun p hp => ⟨hPQ p hp.1, hp.2⟩⟩

/-- What C12 says about `stepAdaptive` is read off this one statement. -/
theorem stepAdaptive_chain (cfg : CartCfg R) (ik : Iso R → J6 R → List (J6 R)) (half : R)
    (fuel depth : Nat) (starting : J6 R) (from_ to_ : APose R) (l : List (J6 R))
    (h : stepAdaptive cfg ik half fuel depth starting from_ to_ = some l) :
    List.IsChain (StepRel cfg ik (Bisect half from_ to_)) (starting :: l) ∧
      ∃ init last, l = init ++ [last] ∧ last ∈ ik to_.pose ((starting :: init).getLast (by simp)) := by
  fun_induction stepAdaptive cfg ik half fuel depth starting from_ to_ generalizing l with
  | case1 | case3 | case4 | case5 | case7 => cases h
  | case2 fuel depth starting from_ to_ sols next hf =>
    cases h
    have hc := List.find?_some hf
    have hm := List.mem_of_find?_eq_some hf
    exact ⟨List.isChain_cons_cons.2 ⟨⟨hc, to_, .target _ _, hm⟩, .singleton _⟩, [], next, rfl, hm⟩
  | case6 fuel depth starting from_ to_ sols hf hd mid first h1 midStep hl second h2 ih1 ih2 =>
    cases h
    -- the first half ends in `midStep`, where the second half starts
    obtain ⟨c1, i1, l1, rfl, -⟩ := ih1 _ h1
    obtain ⟨c2, i2, l2, rfl, m2⟩ := ih2 _ h2
    obtain rfl : l1 = midStep := Option.some.inj (List.getLast?_concat.symm.trans hl)
    refine ⟨?_, i1 ++ [l1] ++ i2, l2, (List.append_assoc _ _ _).symm, ?_⟩
    · rw [List.append_assoc, List.singleton_append]
      exact List.isChain_cons_split.2
        ⟨c1.imp fun _ _ => .mono fun _ => .left, c2.imp fun _ _ => .mono fun _ => .right⟩
    · have : (starting :: (i1 ++ [l1] ++ i2)) = (starting :: i1) ++ (l1 :: i2) := by simp
      simp only [this]
      rw [List.getLast_append_of_ne_nil (by simp)]
      exact m2

theorem isChain_pred {α : Type} {r : α → α → Prop} :
    ∀ (l : List α) (a : α), List.IsChain r (a :: l) → ∀ y ∈ l, ∃ x ∈ a :: l, r x y := by
  intro l
  induction l with
  | nil => intro a _ y hy; cases hy
  | cons b l ih =>
    intro a h y hy
    rw [List.isChain_cons_cons] at h
    rcases List.mem_cons.1 hy with rfl | hy
    · exact ⟨a, List.mem_cons_self, h.1⟩
    · obtain ⟨x, hx, hr⟩ := ih b h.2 y hy
      exact ⟨x, List.mem_cons_of_mem _ hx, hr⟩

/-- the waypoints appended for one transition `from_ → to_` -/
def SegOk (ik : Iso R → J6 R → List (J6 R)) (half : R) (from_ to_ : APose R) (seg : List (AJoints R)) : Prop :=
  ∃ init last, seg = init ++ [last] ∧ last.flags = to_.flags ∧ (∃ prev, last.joints ∈ ik to_.pose prev) ∧
    ∀ w ∈ init, w.flags = interFlags to_.flags ∧ ∃ p prev, Bisect half from_ to_ p ∧ w.joints ∈ ik p.pose prev

theorem SegOk.solves {ik : Iso R → J6 R → List (J6 R)} {half : R} {from_ to_ : APose R}
    {seg : List (AJoints R)} (h : SegOk ik half from_ to_ seg) :
    ∀ w ∈ seg, ∃ p prev, Bisect half from_ to_ p ∧ w.joints ∈ ik p.pose prev := by
  obtain ⟨init, last, rfl, -, ⟨prev, hl⟩, hi⟩ := h
  intro w hw
  rw [List.mem_append, List.mem_singleton] at hw
  rcases hw with hw | rfl
  · exact (hi w hw).2
  · exact ⟨to_, prev, .target _ _, hl⟩

/-- the same between consecutive waypoints of the trace, whichever pose the second one solves -/
def WayRel (cfg : CartCfg R) (ik : Iso R → J6 R → List (J6 R)) (x y : AJoints R) : Prop :=
  CostOk cfg x.joints y.joints ∧ ∃ pose, y.joints ∈ ik pose x.joints

omit [OpwNum R] in
theorem zip_replicate_map (init : List (J6 R)) (I : Nat) :
    ((init.zip (List.replicate init.length I)).map (fun (j, f) => (⟨j, f⟩ : AJoints R)))
      = init.map (fun j => ⟨j, I⟩) := by
  induction init with
  | nil => rfl
  | cons a l ih => simp [List.replicate_succ, ih]

omit [OpwNum R] in
theorem annotate_snoc (init : List (J6 R)) (last : J6 R) (f : Nat) :
    (((init ++ [last]).zip (extensionFlags f (init ++ [last]).length)).map (fun (j, f) => (⟨j, f⟩ : AJoints R)))
      = init.map (fun j => ⟨j, interFlags f⟩) ++ [⟨last, f⟩] := by
  rw [List.length_append, List.length_singleton, extensionFlags_succ, List.zip_append (by simp),
    List.map_append, zip_replicate_map]
  rfl

theorem cartesianTrace_prefix (cfg : CartCfg R) (ik : Iso R → J6 R → List (J6 R)) (half : R)
    (cw : J6 R → APose R → Option (List (AJoints R)))
    (poses : List (APose R)) (trace0 tr : List (AJoints R))
    (h : cartesianTrace cfg ik half cw poses trace0 = some tr) : ∃ ext, tr = trace0 ++ ext := by
  fun_induction cartesianTrace cfg ik half cw poses trace0 with
  | case1 => cases h
  | case2 _ _ _ _ _ _ _ _ _ ih | case3 _ _ _ _ _ _ _ _ _ ih =>
    obtain ⟨e, rfl⟩ := ih h
    exact ⟨_, List.append_assoc _ _ _⟩
  | case4 => cases h
  | case5 => exact ⟨[], by simpa using h.symm⟩

/-- `closeWithRrt := fun _ _ => none`: no re-planning, a transition the adaptive step cannot make fails
instead of falling back on RRT.  One block of waypoints per consecutive pose pair. -/
theorem cartesianTrace_segs (cfg : CartCfg R) (ik : Iso R → J6 R → List (J6 R)) (half : R)
    (poses : List (APose R)) (trace0 tr : List (AJoints R))
    (h : cartesianTrace cfg ik half (fun _ _ => none) poses trace0 = some tr) :
      ∃ segs : List (List (AJoints R)), tr = trace0 ++ segs.flatten ∧
        List.Forall₂ (fun (ft : APose R × APose R) seg => SegOk ik half ft.1 ft.2 seg) (poses.zip poses.tail) segs ∧
        ∀ last, trace0.getLast? = some last → List.IsChain (WayRel cfg ik) (last :: segs.flatten) := by
  fun_induction cartesianTrace cfg ik half (fun _ _ => none) poses trace0 with
  | case1 | case4 => cases h
  | case3 _ _ _ _ _ _ _ _ hcw => cases hcw
  | case5 poses trace hne =>
    cases h
    have : poses.zip poses.tail = [] := by
      rcases poses with _ | ⟨a, _ | ⟨b, r⟩⟩
      · rfl
      · rfl
      · exact (hne a b r rfl).elim
    exact ⟨[], (List.append_nil _).symm, this ▸ .nil, fun _ _ => .singleton _⟩
  | case2 from_ to_ rest trace prev hprev ext hext fl ih =>
    obtain ⟨hc, init, last, rfl, hm⟩ := stepAdaptive_chain cfg ik half _ _ _ _ _ _ hext
    rw [show fl = _ from rfl, annotate_snoc] at ih h
    obtain ⟨segs, htr, hf, hch⟩ := ih h
    refine ⟨(init.map (fun j => ⟨j, interFlags to_.flags⟩) ++ [⟨last, to_.flags⟩]) :: segs,
      by rw [htr, List.flatten_cons, List.append_assoc], .cons ⟨_, _, rfl, rfl, ⟨_, hm⟩, ?_⟩ hf, ?_⟩
    · intro w hw
      obtain ⟨j, hj, rfl⟩ := List.mem_map.1 hw
      obtain ⟨x, _, _, p, hp, hjp⟩ := isChain_pred _ _ hc j (List.mem_append_left _ hj)
      exact ⟨rfl, p, x, hp, hjp⟩
    · intro l hl
      obtain rfl : prev = l := by rw [hprev] at hl; exact Option.some.inj hl
      rw [List.flatten_cons, List.append_assoc, List.singleton_append]
      refine List.isChain_cons_split.2 ⟨?_, hch _ (by simp)⟩
      -- `WayRel` is a relation between the joint vectors, and those of the annotated block are
      -- `init ++ [last]`: so it is the chain `hc`, forgetting which pose each vector solves
      have e : prev.joints :: (init ++ [last])
          = (prev :: (init.map (fun j => (⟨j, interFlags to_.flags⟩ : AJoints R))
              ++ [⟨last, to_.flags⟩])).map (·.joints) := by
        simp [Function.comp_def]
      have hc' := hc.imp (S := fun x y => CostOk cfg x y ∧ ∃ pose, y ∈ ik pose x)
        fun _ _ h => ⟨h.1, h.2.elim fun p hp => ⟨p.pose, hp.2⟩⟩
      rw [e, List.isChain_map] at hc'
      exact hc'

theorem probeStrategy_some (cfg : CartCfg R) (ik : Iso R → J6 R → List (J6 R)) (half : R)
    (rrt : J6 R → J6 R → Option (List (J6 R))) (cw : J6 R → APose R → Option (List (AJoints R)))
    (collides : J6 R → Bool) (stopped : Bool) (from_ strategy : J6 R) (poses : List (APose R))
    (out : List (AJoints R))
    (h : probeStrategy cfg ik half rrt cw collides stopped from_ strategy poses = some out) :
    ∃ onboarding trace, rrt from_ strategy = some onboarding ∧
      cartesianTrace cfg ik half cw poses
        ((onboarding.take (onboarding.length - 1)).map (fun j => (⟨j, flagOnboarding⟩ : AJoints R))
          ++ [⟨strategy, flagLand⟩]) = some trace ∧
      stopped = false ∧ (∀ s ∈ trace, collides s.joints = false) ∧
      out = if cfg.includeLinearInterpolation then trace
            else trace.filter (fun s => !(hasFlag s.flags flagLinInterp)) := by
  unfold probeStrategy at h
  split at h
  · cases h
  · next onboarding hr =>
    simp only at h
    split at h
    · cases h
    · next trace ht =>
      refine ⟨onboarding, trace, hr, ht, ?_⟩
      -- `h` is now the chain of three tests: stop flag, collision, interpolation switch
      cases stopped with
      | true => cases h
      | false =>
        rw [if_neg Bool.false_ne_true] at h
        by_cases hc : trace.any (fun s => collides s.joints) = true
        · rw [if_pos hc] at h
          cases h
        · rw [if_neg hc] at h
          rw [Bool.not_eq_true, List.any_eq_false] at hc
          refine ⟨rfl, fun s hs => by simpa using hc s hs, ?_⟩
          cases hi : cfg.includeLinearInterpolation <;> rw [hi] at h <;> exact (Option.some.inj h).symm

/-- the number of steps `add_intermediate_poses` uses between two poses -/
def stepCount (a b : Iso R) (stepM stepRad : R) : Nat :=
  max (max (OpwNum.ceilNat ((b.t.sub a.t).norm / stepM))
           (OpwNum.ceilNat ((b.q.mul a.q.conj).angle / stepRad))) 1

theorem intermediatePoses_eq (a b : Iso R) (sm sr : R) (ofNat : Nat → R) :
    intermediatePoses a b sm sr ofNat =
      (List.range (stepCount a b sm sr - 1)).map (fun k =>
        (⟨⟨a.t.add (((b.t.sub a.t).divs (ofNat (stepCount a b sm sr))).scale (ofNat (k + 1))),
           a.q.slerp b.q (ofNat (k + 1) / ofNat (stepCount a b sm sr))⟩, flagLinInterp⟩ : APose R)) := rfl

theorem intermediatePoses_flags (a b : Iso R) (sm sr : R) (ofNat : Nat → R) :
    ∀ p ∈ intermediatePoses a b sm sr ofNat, p.flags = flagLinInterp := by
  intro p hp
  rw [intermediatePoses_eq, List.mem_map] at hp
  obtain ⟨k, _, rfl⟩ := hp
  rfl

omit [OpwNum R] in
theorem filter_lin_eq_nil (l : List (APose R)) (h : ∀ p ∈ l, p.flags = flagLinInterp) :
    l.filter (fun p => !(hasFlag p.flags flagLinInterp)) = [] := by
  rw [List.filter_eq_nil_iff]
  intro p hp
  rw [h p hp]
  decide

omit [OpwNum R] in
theorem stroke_filter (park : Iso R) (ip : Iso R → Iso R → List (APose R))
    (hip : ∀ a b, ∀ p ∈ ip a b, p.flags = flagLinInterp) (steps : List (Iso R)) (prev : Iso R) :
    (withIntermediatePoses.stroke park ip prev steps).filter (fun p => !(hasFlag p.flags flagLinInterp))
      = steps.map (fun s => ⟨s, flagTrace⟩) := by
  fun_induction withIntermediatePoses.stroke park ip prev steps with
  | case1 prev => exact filter_lin_eq_nil _ (hip _ _)
  | case2 prev s rest ih =>
    rw [List.filter_append, List.filter_append, ih, filter_lin_eq_nil _ (hip _ _)]
    simp [show hasFlag flagTrace flagLinInterp = false by decide]

omit [OpwNum R] in
theorem stroke_flags (park : Iso R) (ip : Iso R → Iso R → List (APose R))
    (hip : ∀ a b, ∀ p ∈ ip a b, p.flags = flagLinInterp) (steps : List (Iso R)) (prev : Iso R) :
    ∀ p ∈ withIntermediatePoses.stroke park ip prev steps,
      p.flags = flagLinInterp ∨ p.flags = flagTrace := by
  fun_induction withIntermediatePoses.stroke park ip prev steps with
  | case1 prev => exact fun p hp => .inl (hip _ _ p hp)
  | case2 prev s rest ih =>
    intro p hp
    rw [List.mem_append, List.mem_append, List.mem_singleton] at hp
    rcases hp with (hp | rfl) | hp
    exacts [.inl (hip _ _ p hp), .inr rfl, ih p hp]

theorem withIntermediatePoses_eq (land : Iso R) (steps : List (Iso R)) (park : Iso R) (sm sr : R) (ofNat : Nat → R) :
    withIntermediatePoses land steps park sm sr ofNat =
      ⟨land, flagLand⟩ ::
        (withIntermediatePoses.stroke park (fun a b => intermediatePoses a b sm sr ofNat) land steps
          ++ [⟨park, flagPark⟩]) := by
  simp [withIntermediatePoses]

theorem withIntermediatePoses_tail_filter (land : Iso R) (steps : List (Iso R)) (park : Iso R) (sm sr : R) (ofNat : Nat → R) :
    (withIntermediatePoses land steps park sm sr ofNat).tail.filter (fun p => !(hasFlag p.flags flagLinInterp))
      = steps.map (fun s => ⟨s, flagTrace⟩) ++ [⟨park, flagPark⟩] := by
  rw [withIntermediatePoses_eq, List.tail_cons, List.filter_append,
    stroke_filter _ _ (fun a b => intermediatePoses_flags a b sm sr ofNat)]
  simp [show hasFlag flagPark flagLinInterp = false by decide]

theorem withIntermediatePoses_filter (land : Iso R) (steps : List (Iso R)) (park : Iso R) (sm sr : R) (ofNat : Nat → R) :
    (withIntermediatePoses land steps park sm sr ofNat).filter (fun p => !(hasFlag p.flags flagLinInterp))
      = ⟨land, flagLand⟩ :: (steps.map (fun s => ⟨s, flagTrace⟩) ++ [⟨park, flagPark⟩]) := by
  rw [← withIntermediatePoses_tail_filter land steps park sm sr ofNat, withIntermediatePoses_eq]
  exact List.filter_cons_of_pos (by show (!(hasFlag flagLand flagLinInterp)) = true; decide)

theorem scale_divs (d : V3 ℝ) (n k : ℝ) : (d.divs n).scale k = d.scale (k / n) := by
  simp only [V3.scale, V3.divs]
  apply V3.ext' <;> ring

theorem intermediate_on_segment (start end_ : Iso ℝ) (sm sr : ℝ) :
    ∀ p ∈ intermediatePoses start end_ sm sr (fun n => (n : ℝ)),
      ∃ s : ℝ, 0 < s ∧ s < 1 ∧ p.pose.t = start.t.add ((end_.t.sub start.t).scale s) := by
  intro p hp
  rw [intermediatePoses_eq, List.mem_map] at hp
  obtain ⟨k, hk, rfl⟩ := hp
  rw [List.mem_range] at hk
  have hk0 : (0 : ℝ) < ((k + 1 : ℕ) : ℝ) := Nat.cast_pos.2 k.succ_pos
  have hk' : ((k + 1 : ℕ) : ℝ) < (stepCount start end_ sm sr : ℝ) :=
    Nat.cast_lt.2 (Nat.lt_sub_iff_add_lt.1 hk)
  have hn : (0 : ℝ) < (stepCount start end_ sm sr : ℝ) := hk0.trans hk'
  exact ⟨((k + 1 : ℕ) : ℝ) / (stepCount start end_ sm sr : ℝ),
    div_pos hk0 hn, (div_lt_one hn).2 hk', congrArg start.t.add (scale_divs _ _ _)⟩

theorem interpolate_t_seg (a b : APose ℝ) (p : ℝ) :
    (a.interpolate b p).pose.t = a.pose.t.add ((b.pose.t.sub a.pose.t).scale p) := by
  simp only [APose.interpolate, V3.lerp, V3.add, V3.scale, V3.sub, lit1]
  apply V3.ext' <;> ring

/-! Points `a + (b − a)·s` of a segment: its end, and a point of its left part `a`–`m` or right part
`m`–`b` (`m` the point at `h`) as a point of the whole. -/

theorem seg_end (a b : V3 ℝ) : a.add ((b.sub a).scale 1) = b := by
  simp only [V3.add, V3.scale, V3.sub]
  apply V3.ext' <;> ring

theorem seg_left (a b : V3 ℝ) (h s : ℝ) :
    a.add (((a.add ((b.sub a).scale h)).sub a).scale s) = a.add ((b.sub a).scale (h * s)) := by
  simp only [V3.add, V3.scale, V3.sub]
  apply V3.ext' <;> ring

theorem seg_right (a b : V3 ℝ) (h s : ℝ) :
    (a.add ((b.sub a).scale h)).add ((b.sub (a.add ((b.sub a).scale h))).scale s)
      = a.add ((b.sub a).scale (h + (1 - h) * s)) := by
  simp only [V3.add, V3.scale, V3.sub]
  apply V3.ext' <;> ring

theorem bisect_on_segment (half : ℝ) (h0 : 0 ≤ half) (h1 : half ≤ 1) (a b p : APose ℝ)
    (h : Bisect half a b p) :
    ∃ s : ℝ, 0 ≤ s ∧ s ≤ 1 ∧ p.pose.t = a.pose.t.add ((b.pose.t.sub a.pose.t).scale s) := by
  induction h with
  | target a b => exact ⟨1, zero_le_one, le_refl _, (seg_end _ _).symm⟩
  | @left a b p _ ih =>
    -- the parameter `s` on the left half is `half * s` on the whole segment
    obtain ⟨s, hs0, hs1, e⟩ := ih
    refine ⟨half * s, mul_nonneg h0 hs0, mul_le_one₀ h1 hs0 hs1, ?_⟩
    rw [e, interpolate_t_seg, seg_left]
  | @right a b p _ ih =>
    -- on the right half it is `half + (1 - half) * s`
    obtain ⟨s, hs0, hs1, e⟩ := ih
    have hs : (1 - half) * s ≤ 1 - half := mul_le_of_le_one_right (sub_nonneg.2 h1) hs1
    refine ⟨half + (1 - half) * s, add_nonneg h0 (mul_nonneg (sub_nonneg.2 h1) hs0),
      (add_le_add le_rfl hs).trans_eq (add_sub_cancel half 1), ?_⟩
    rw [e, interpolate_t_seg, seg_right]

theorem forall₂_lasts {α β : Type} (K : α → β → Prop) :
    ∀ (tos : List α) (segs : List (List β)),
      List.Forall₂ (fun to_ seg => ∃ init last, seg = init ++ [last] ∧ K to_ last) tos segs →
      ∃ ws, ws.Sublist segs.flatten ∧ List.Forall₂ K tos ws := by
  intro tos segs h
  induction h with
  | nil => exact ⟨[], List.nil_sublist _, List.Forall₂.nil⟩
  | cons h1 _ ih =>
    obtain ⟨init, last, rfl, hk⟩ := h1
    obtain ⟨ws, hs, hf⟩ := ih
    refine ⟨last :: ws, ?_, List.Forall₂.cons hk hf⟩
    rw [List.flatten_cons]
    exact ((List.sublist_append_right init [last]).append hs)

/-- `w` is the waypoint the planner returns for the key pose `kp` (a stroke step or the parking pose) -/
def Realises (ik : Iso R → J6 R → List (J6 R)) (kp : APose R) (w : AJoints R) : Prop :=
  w.flags = kp.flags ∧ ∃ prev, w.joints ∈ ik kp.pose prev

/-- the predicate `probe_strategy` uses to drop interpolated waypoints -/
abbrev keepW (s : AJoints R) : Bool := !(hasFlag s.flags flagLinInterp)
/-- the same test on the poses: those whose waypoints survive the filter -/
abbrev keepP (p : APose R) : Bool := !(hasFlag p.flags flagLinInterp)

/-- the onboarding waypoints built from the RRT path -/
def onbOf (onboarding : List (J6 R)) : List (AJoints R) :=
  (onboarding.take (onboarding.length - 1)).map (fun j => ⟨j, flagOnboarding⟩)

omit [OpwNum R] in
theorem filter_onb (onboarding : List (J6 R)) (strategy : J6 R) :
    (onbOf onboarding ++ [(⟨strategy, flagLand⟩ : AJoints R)]).filter keepW
      = onbOf onboarding ++ [⟨strategy, flagLand⟩] := by
  rw [List.filter_eq_self]
  intro a ha
  rw [List.mem_append] at ha
  rcases ha with ha | ha
  · rw [onbOf, List.mem_map] at ha
    obtain ⟨j, _, rfl⟩ := ha
    show (!(hasFlag flagOnboarding flagLinInterp)) = true
    decide
  · rw [List.mem_singleton] at ha; subst ha
    show (!(hasFlag flagLand flagLinInterp)) = true
    decide

/-- the onboarding waypoints and the strategy point are never filtered out -/
theorem probeStrategy_shape (cfg : CartCfg R) (ik : Iso R → J6 R → List (J6 R)) (half : R)
    (rrt : J6 R → J6 R → Option (List (J6 R))) (cw : J6 R → APose R → Option (List (AJoints R)))
    (collides : J6 R → Bool) (stopped : Bool) (from_ strategy : J6 R) (poses : List (APose R))
    (out : List (AJoints R))
    (h : probeStrategy cfg ik half rrt cw collides stopped from_ strategy poses = some out) :
    ∃ onboarding ext, rrt from_ strategy = some onboarding ∧
      cartesianTrace cfg ik half cw poses (onbOf onboarding ++ [⟨strategy, flagLand⟩])
        = some (onbOf onboarding ++ [⟨strategy, flagLand⟩] ++ ext) ∧
      out = onbOf onboarding ++ [⟨strategy, flagLand⟩]
              ++ (if cfg.includeLinearInterpolation then ext else ext.filter keepW) := by
  obtain ⟨onboarding, trace, hr, ht, _, _, ho⟩ := probeStrategy_some _ _ _ _ _ _ _ _ _ _ _ h
  obtain ⟨ext, he⟩ := cartesianTrace_prefix _ _ _ _ _ _ _ ht
  subst he
  refine ⟨onboarding, ext, hr, ht, ?_⟩
  rw [ho]
  cases cfg.includeLinearInterpolation
  · rw [if_neg Bool.false_ne_true, if_neg Bool.false_ne_true, List.filter_append]
    exact congrArg (· ++ ext.filter keepW) (filter_onb onboarding strategy)
  · rw [if_pos rfl, if_pos rfl]
    rfl

omit [OpwNum R] in
theorem onb_head (onboarding : List (J6 R)) (from_ strategy : J6 R) (rest : List (AJoints R))
    (hh : onboarding.head? = some from_) (hl : onboarding.getLast? = some strategy) :
    ((onbOf onboarding ++ [(⟨strategy, flagLand⟩ : AJoints R)] ++ rest).head?).map (·.joints) = some from_ ∧
    (2 ≤ onboarding.length →
      (onbOf onboarding ++ [(⟨strategy, flagLand⟩ : AJoints R)] ++ rest).head? = some ⟨from_, flagOnboarding⟩) := by
  rcases onboarding with _ | ⟨a, _ | ⟨b, t⟩⟩
  · cases hh
  · -- a one-node path: no onboarding waypoint, and the strategy point is the start
    cases hh; cases hl
    exact ⟨rfl, fun h => absurd h (Nat.not_succ_le_self 1)⟩
  · cases hh
    have e : onbOf (from_ :: b :: t) = ⟨from_, flagOnboarding⟩ :: onbOf (b :: t) := rfl
    rw [e]
    exact ⟨rfl, fun _ => rfl⟩

theorem segOk_on_segment (ik : Iso ℝ → J6 ℝ → List (J6 ℝ)) (half : ℝ) (h0 : 0 ≤ half) (h1 : half ≤ 1)
    (from_ to_ : APose ℝ) (seg : List (AJoints ℝ)) (h : SegOk ik half from_ to_ seg) :
    ∀ w ∈ seg, ∃ (p : APose ℝ) (prev : J6 ℝ) (s : ℝ), w.joints ∈ ik p.pose prev ∧ 0 ≤ s ∧ s ≤ 1 ∧
      p.pose.t = from_.pose.t.add ((to_.pose.t.sub from_.pose.t).scale s) := by
  intro w hw
  obtain ⟨p, prev, hb, hm⟩ := h.solves w hw
  obtain ⟨s, hs0, hs1, e⟩ := bisect_on_segment half h0 h1 _ _ _ hb
  exact ⟨p, prev, s, hm, hs0, hs1, e⟩

end Opw.Cart
