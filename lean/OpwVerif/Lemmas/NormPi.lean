/-
  The pair of loops `while angle > PI { .. }  while angle < -PI { .. }`, which `kinematics_impl.rs`
  writes out inline three times (there is no function for it; the model calls it `normPi`, with
  `loopDown`/`loopUp`), over ℝ: `normPiF fuel` runs `fuel` rounds of each loop; it moves its argument by
  whole turns and, fuel permitting, brings it within `π` of `0` (`normPiF_abs_le`).  Also hosted here,
  because the IK lemmas need them with `Kin.lean` only: `arg_mk_im_zero` and the signs of the two
  tolerances (`distTol_nonneg`, `angTol_nonneg`).  Declares into `Opw.Nearest`, the namespace under which
  `Props/C04.lean` and the IK files cite these lemmas.
-/
import OpwVerif.Kin
import OpwVerif.Lemmas.Angle
namespace Opw.Nearest
open Real Angle

theorem loopDown_zero (x : ℝ) : loopDown 0 x = x := rfl
theorem loopDown_succ (n : ℕ) (x : ℝ) :
    loopDown (n + 1) x = if x > π then loopDown n (x - 2 * π) else x := by
  show (if x > pi then loopDown n (x - OfNat.ofNat 2 * pi) else x) = _
  rw [lit2, pi_def_real]
theorem loopUp_zero (x : ℝ) : loopUp 0 x = x := rfl
theorem loopUp_succ (n : ℕ) (x : ℝ) :
    loopUp (n + 1) x = if x < -π then loopUp n (x + 2 * π) else x := by
  show (if x < -pi then loopUp n (x + OfNat.ofNat 2 * pi) else x) = _
  rw [lit2, pi_def_real]

/-- the second loop mirrors the first, so only the first needs lemmas -/
theorem loopUp_eq (n : ℕ) (x : ℝ) : loopUp n x = -loopDown n (-x) := by
  induction n generalizing x with
  | zero => exact (neg_neg x).symm
  | succ n ih =>
    rw [loopUp_succ, loopDown_succ]
    by_cases hx : x < -π
    · rw [if_pos hx, if_pos (lt_neg.1 hx), ih, neg_add, ← sub_eq_add_neg]
    · rw [if_neg hx, if_neg fun h => hx (lt_neg.2 h), neg_neg]

theorem normPiF_eq (fuel : ℕ) (x : ℝ) : normPiF fuel x = -loopDown fuel (-loopDown fuel x) :=
  loopUp_eq _ _

theorem loopDown_le (n : ℕ) {x c : ℝ} (hc : π ≤ c) (h : x ≤ c + 2 * π * n) : loopDown n x ≤ c := by
  induction n generalizing x with
  | zero => rwa [Nat.cast_zero, mul_zero, add_zero] at h
  | succ n ih =>
    rw [loopDown_succ]
    split_ifs with hx
    · rw [Nat.cast_succ, mul_add, mul_one, ← add_assoc] at h
      exact ih (sub_le_iff_le_add.2 h)
    · exact (not_lt.1 hx).trans hc

theorem loopDown_id_or_gt (n : ℕ) (x : ℝ) : loopDown n x = x ∨ -π < loopDown n x := by
  induction n generalizing x with
  | zero => exact .inl rfl
  | succ n ih =>
    rw [loopDown_succ]
    split_ifs with hx
    · exact .inr ((ih _).elim (fun h => by rw [h]; linarith) id)
    · exact .inl rfl

theorem loopDown_turn (n : ℕ) (x : ℝ) : ∃ k : ℤ, loopDown n x = x + 2 * π * k := by
  induction n generalizing x with
  | zero => exact ⟨0, by rw [Int.cast_zero, mul_zero, add_zero]; rfl⟩
  | succ n ih =>
    rw [loopDown_succ]
    split_ifs with hx
    · obtain ⟨k, hk⟩ := ih (x - 2 * π)
      exact ⟨k - 1, by rw [hk]; push_cast; ring⟩
    · exact ⟨0, by rw [Int.cast_zero, mul_zero, add_zero]⟩

theorem loopDown_id (n : ℕ) {x : ℝ} (h : x ≤ π) : loopDown n x = x := by
  cases n with
  | zero => rfl
  | succ n => rw [loopDown_succ, if_neg (not_lt.2 h)]

theorem normPiF_turn (fuel : ℕ) (x : ℝ) : ∃ k : ℤ, normPiF fuel x = x + 2 * π * k := by
  obtain ⟨k1, h1⟩ := loopDown_turn fuel x
  obtain ⟨k2, h2⟩ := loopDown_turn fuel (-loopDown fuel x)
  exact ⟨k1 - k2, by rw [normPiF_eq, h2, h1]; push_cast; ring⟩

/-- each round brings the value a turn nearer to `0`, and a value within `π` is left alone: from
within `c + 2π·fuel` one arrives within `c` -/
theorem normPiF_abs_le (fuel : ℕ) {x c : ℝ} (hc : π ≤ c) (h : |x| ≤ c + 2 * π * fuel) :
    |normPiF fuel x| ≤ c := by
  rw [abs_le] at h
  have hd := loopDown_le fuel hc h.2
  rw [normPiF_eq, abs_neg, abs_le]
  constructor
  · rcases loopDown_id_or_gt fuel (-loopDown fuel x) with e | e
    · rw [e]; exact neg_le_neg hd
    · exact (neg_le_neg hc).trans e.le
  · apply loopDown_le fuel hc
    rcases loopDown_id_or_gt fuel x with e | e
    · rw [e]; exact neg_le.1 h.1
    · have : 0 ≤ 2 * π * fuel := mul_nonneg two_pi_pos.le (Nat.cast_nonneg fuel)
      exact (neg_lt.1 e).le.trans (hc.trans (le_add_of_nonneg_right this))

theorem normPiF_id (fuel : ℕ) (x : ℝ) (h1 : -π ≤ x) (h2 : x ≤ π) : normPiF fuel x = x := by
  rw [normPiF_eq, loopDown_id _ h2, loopDown_id _ (neg_le.1 h1), neg_neg]

theorem arg_mk_im_zero (x : ℝ) (h : 0 ≤ x) : Complex.arg ⟨x, 0⟩ = 0 :=
  Complex.arg_ofReal_of_nonneg h

theorem distTol_nonneg : (0 : ℝ) ≤ distTol := by
  show (0 : ℝ) ≤ ((Gen.distTolM : ℤ) : ℝ) * (2 : ℝ) ^ Gen.distTolE
  unfold Gen.distTolM
  positivity

theorem angTol_nonneg : (0 : ℝ) ≤ angTol := by
  show (0 : ℝ) ≤ ((Gen.angTolM : ℤ) : ℝ) * (2 : ℝ) ^ Gen.angTolE
  unfold Gen.angTolM
  positivity

end Opw.Nearest
