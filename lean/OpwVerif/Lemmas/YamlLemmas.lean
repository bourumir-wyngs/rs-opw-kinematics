/-
  What the YAML reader does on each form of input, for C19: `Yaml.get` is a first-match lookup
  (`HasKey`), both array readers end in the same pad-and-check (`checkSix`), and `fromYamlDocs` on a
  loaded stream is one equation in the order of its checks (`fromYamlDocs_cons`).
  Any number type; `OpwNum R` has no laws and none are needed.
-/
import OpwVerif.Yaml
namespace Opw.YamlL
variable {R : Type} [OpwNum R]
-- many statements below hold for any `R`; all carry `[OpwNum R]`, like those of `Props/C19.lean`
set_option linter.unusedSectionVars false

/-- `as i8` is the balanced remainder modulo 256 -/
theorem toI8_eq_bmod (i : Int) : toI8 i = i.bmod 256 := by
  simp only [toI8, Int.bmod_def, ge_iff_le, ← Int.not_lt, ite_not]
  rfl  -- `(256 + 1) / 2 = 128`

theorem toI8_id {s : Int} (h1 : -128 ≤ s) (h2 : s ≤ 127) : toI8 s = s := by
  rw [toI8_eq_bmod]
  exact Int.bmod_eq_of_le h1 (Int.lt_of_le_sub_one h2)

theorem toI8_range (i : Int) : -128 ≤ toI8 i ∧ toI8 i ≤ 127 := by
  rw [toI8_eq_bmod]
  exact ⟨Int.le_bmod (by decide), Int.bmod_le (by decide)⟩

theorem toI8_idem (i : Int) : toI8 (toI8 i) = toI8 i :=
  toI8_id (toI8_range i).1 (toI8_range i).2

theorem map_toI8_id {s : List Int} (h : ∀ x ∈ s, -128 ≤ x ∧ x ≤ 127) : s.map toI8 = s :=
  (List.map_congr_left fun x hx => toI8_id (h x hx).1 (h x hx).2).trans (List.map_id' s)

/-- `v` sits under the FIRST entry of the hash `y` whose key is the string `k` -/
def HasKey (y : Yaml R) (k : String) (v : Yaml R) : Prop :=
  ∃ pre key post, y = .hash (pre ++ (key, v) :: post) ∧ key.isStr k = true ∧
    ∀ e ∈ pre, e.1.isStr k = false

def NoKey (y : Yaml R) (k : String) : Prop :=
  ∀ l, y = .hash l → ∀ e ∈ l, e.1.isStr k = false

/-- `HasKey` spells out what `find?` (the lookup inside `Yaml.get`) finds -/
theorem hasKey_hash {l : List (Yaml R × Yaml R)} {k : String} {v : Yaml R} :
    HasKey (.hash l) k v ↔ ∃ key, l.find? (fun e => e.1.isStr k) = some (key, v) := by
  simp only [HasKey, Yaml.hash.injEq, List.find?_eq_some_iff_append, Bool.not_eq_eq_eq_not,
    Bool.not_true]
  constructor
  · rintro ⟨pre, key, post, hl, hk, hp⟩
    exact ⟨key, hk, pre, post, hl, hp⟩
  · rintro ⟨key, hk, pre, post, hl, hp⟩
    exact ⟨pre, key, post, hl, hk, hp⟩

theorem get_of_hasKey {y v : Yaml R} {k : String} (h : HasKey y k v) : y.get k = v := by
  obtain ⟨l, rfl⟩ : ∃ l, y = .hash l := by
    obtain ⟨pre, key, post, e, -⟩ := h
    exact ⟨_, e⟩
  obtain ⟨key, hf⟩ := hasKey_hash.1 h
  simp only [Yaml.get, hf]

theorem get_of_noKey {y : Yaml R} {k : String} (h : NoKey y k) : y.get k = .other := by
  cases y with
  | hash l =>
    have : l.find? (fun e => e.1.isStr k) = none :=
      List.find?_eq_none.2 fun e he => by simp [h l rfl e he]
    simp only [Yaml.get, this]
  | _ => rfl

theorem HasKey.head {key v : Yaml R} {l : List (Yaml R × Yaml R)} {k : String}
    (h : key.isStr k = true) : HasKey (.hash ((key, v) :: l)) k v :=
  ⟨[], key, l, rfl, h, nofun⟩

theorem HasKey.tail {key v v' : Yaml R} {l : List (Yaml R × Yaml R)} {k : String}
    (h : key.isStr k = false) (hk : HasKey (.hash l) k v') : HasKey (.hash ((key, v) :: l)) k v' := by
  obtain ⟨key', hf⟩ := hasKey_hash.1 hk
  exact hasKey_hash.2 ⟨key', by rw [List.find?_cons, h]; exact hf⟩

theorem hasKey_of_mem_unique {l : List (Yaml R × Yaml R)} {key v : Yaml R} {k : String}
    (hm : (key, v) ∈ l) (hk : key.isStr k = true)
    (hu : ∀ e ∈ l, e.1.isStr k = true → e.2 = v) : HasKey (Yaml.hash l) k v := by
  let p := fun e : Yaml R × Yaml R => e.1.isStr k
  obtain ⟨e, he⟩ := Option.isSome_iff_exists.1 ((List.find?_isSome (p := p)).2 ⟨_, hm, hk⟩)
  have := hu e (List.mem_of_find?_eq_some he) (List.find?_some (p := p) he)
  exact hasKey_hash.2 ⟨e.1, by rw [he, ← this]⟩

theorem get_of_mem_unique {l : List (Yaml R × Yaml R)} {key v : Yaml R} {k : String}
    (hm : (key, v) ∈ l) (hk : key.isStr k = true)
    (hu : ∀ e ∈ l, e.1.isStr k = true → e.2 = v) : (Yaml.hash l).get k = v :=
  get_of_hasKey (hasKey_of_mem_unique hm hk hu)

/-- for a literal hash this leaves one finite fact to evaluate, `ks.Nodup` -/
theorem hasKey_of_nodup {ks : List String} (hnd : ks.Nodup) {l : List (Yaml R × Yaml R)}
    (hk : l.map Prod.fst = ks.map (fun s => .str s none none))
    {s : String} {v : Yaml R} (i : Nat) (hi : l[i]? = some (.str s none none, v)) :
    HasKey (.hash l) s v := by
  have hm := List.mem_of_getElem? hi
  clear hi
  induction l generalizing ks with
  | nil => cases hm
  | cons e l ih =>
    obtain _ | ⟨s', ks⟩ := ks
    · cases hk
    · obtain ⟨h1, h2⟩ := List.cons.inj hk
      obtain ⟨hs', hnd⟩ := List.nodup_cons.1 hnd
      rcases List.mem_cons.1 hm with rfl | hm
      · exact .head (beq_self_eq_true s)
      · refine .tail ?_ (ih hnd h2 hm)
        obtain ⟨t, ht, h⟩ := List.mem_map.1 (h2 ▸ List.mem_map_of_mem (f := Prod.fst) hm)
        injection h with h
        rw [h1]
        exact beq_eq_false_iff_ne.2 fun hst => hs' (hst ▸ h ▸ ht)

theorem get_nonhash_int (i : Int) (k : String) : (Yaml.int i : Yaml R).get k = .other := rfl
theorem get_other (k : String) : (Yaml.other : Yaml R).get k = .other := rfl

/-- the 5 → 6 padding both array readers apply -/
def pad6 {α : Type} (z : α) (v : List α) : List α := if v.length = 5 then v ++ [z] else v

theorem pad6_five {α : Type} (z : α) {v : List α} (h : v.length = 5) : pad6 z v = v ++ [z] := by
  simp [pad6, h]

theorem pad6_six {α : Type} (z : α) {v : List α} (h : v.length = 6) : pad6 z v = v := by
  simp [pad6, h]

/-- pad, then insist on six entries: how `read_sign_corrections` and `read_offsets` both end -/
def checkSix {α : Type} (z : α) (v : List α) : Except YamlErr (List α) :=
  if (pad6 z v).length = 6 then .ok (pad6 z v) else .error (.invalidLength (pad6 z v).length)

section checkSix
variable {α : Type} (z : α) {v : List α}

theorem checkSix_five (h : v.length = 5) : checkSix z v = .ok (v ++ [z]) := by
  simp [checkSix, pad6_five z h, h]

theorem checkSix_six (h : v.length = 6) : checkSix z v = .ok v := by
  simp [checkSix, pad6_six z h, h]

theorem checkSix_bad (h5 : v.length ≠ 5) (h6 : v.length ≠ 6) :
    checkSix z v = .error (.invalidLength v.length) := by
  simp [checkSix, pad6, h5, h6]

theorem checkSix_total (v : List α) :
    (∃ s, checkSix z v = .ok s ∧ s.length = 6) ∨
    (checkSix z v = .error (.invalidLength v.length) ∧ v.length ≠ 5 ∧ v.length ≠ 6) := by
  by_cases h5 : v.length = 5
  · exact .inl ⟨_, checkSix_five z h5, by simp [h5]⟩
  · by_cases h6 : v.length = 6
    · exact .inl ⟨_, checkSix_six z h6, h6⟩
    · exact .inr ⟨checkSix_bad z h5 h6, h5, h6⟩

end checkSix

/-- the `i8` values `read_sign_corrections` extracts from array items -/
def signVals (l : List (Yaml R)) : List Int := l.map (fun it => toI8 ((it.asI64).getD 0))

theorem signVals_length (l : List (Yaml R)) : (signVals l).length = l.length :=
  List.length_map _

theorem signVals_ints (s : List Int) : signVals (s.map (fun i => (Yaml.int i : Yaml R))) = s.map toI8 := by
  unfold signVals
  rw [List.map_map]
  rfl

theorem readSigns_arr (l : List (Yaml R)) : readSigns (.arr l) = checkSix 0 (signVals l) := by
  unfold readSigns checkSix pad6 signVals
  simp only [Yaml.asVec, Option.getD_some, beq_iff_eq, bne_iff_ne, ne_eq, ite_not]

theorem readSigns_default {y : Yaml R} (h : y.asVec = none) :
    readSigns y = .ok [1, 1, 1, 1, 1, 1] := by
  unfold readSigns
  rw [h]
  have h1 : toI8 1 = 1 := by decide
  simp [List.replicate, Yaml.asI64, h1]

theorem asVec_other : (Yaml.other : Yaml R).asVec = none := rfl

/-- `List.Forall₂` is Mathlib's; this file and `Props/C19.lean` import nothing beyond the model -/
inductive All2 {α β : Type} (r : α → β → Prop) : List α → List β → Prop
  | nil : All2 r [] []
  | cons {a b l₁ l₂} : r a b → All2 r l₁ l₂ → All2 r (a :: l₁) (b :: l₂)

theorem All2.length_eq {α β : Type} {r : α → β → Prop} {l₁ : List α} {l₂ : List β}
    (h : All2 r l₁ l₂) : l₁.length = l₂.length := by
  induction h with
  | nil => rfl
  | cons _ _ ih => simp [ih]

theorem All2.imp {α β : Type} {r s : α → β → Prop} (hrs : ∀ a b, r a b → s a b)
    {l₁ : List α} {l₂ : List β} (h : All2 r l₁ l₂) : All2 s l₁ l₂ := by
  induction h with
  | nil => exact .nil
  | cons h _ ih => exact .cons (hrs _ _ h) ih

theorem All2.map {α β γ : Type} {r : α → β → Prop} {f : γ → α} {g : γ → β}
    (h : ∀ c, r (f c) (g c)) (l : List γ) : All2 r (l.map f) (l.map g) := by
  induction l with
  | nil => exact .nil
  | cons c l ih => exact .cons (h c) ih

/-- value `read_offsets` assigns to one array item -/
def offEntry (ofInt : Int → R) (it : Yaml R) : Except YamlErr R :=
  match it with
  | .str _ _ _ => parseDegrees it
  | .real _ _ rp => (match rp with | some x => .ok x | none => .error .parse)
  | .int i => .ok (ofInt i)
  | _ => .ok 0

theorem readOffsets_go_nil (ofInt : Int → R) : readOffsets.go ofInt [] = .ok [] := rfl

theorem readOffsets_go_cons (ofInt : Int → R) (it : Yaml R) (rest : List (Yaml R)) :
    readOffsets.go ofInt (it :: rest) =
      match offEntry ofInt it with
      | .error e => .error e
      | .ok x => match readOffsets.go ofInt rest with
        | .error e => .error e
        | .ok xs => .ok (x :: xs) := by
  cases it <;> rfl

theorem offEntry_error (ofInt : Int → R) (it : Yaml R) {e : YamlErr}
    (h : offEntry ofInt it = .error e) : e = .parse := by
  -- every failing branch of `offEntry` and of `parseDegrees` is literally `.error .parse`
  cases it with
  | str t w d => rcases d with _ | _ | d <;> rcases w with _ | w <;> cases h <;> rfl
  | real t a rp => rcases rp with _ | x <;> cases h; rfl
  | int i => cases h
  | arr l => cases h
  | hash l => cases h
  | other => cases h

theorem readOffsets_go_ok {ofInt : Int → R} {items : List (Yaml R)} {vals : List R}
    (h : All2 (fun it x => offEntry ofInt it = .ok x) items vals) :
    readOffsets.go ofInt items = .ok vals := by
  induction h with
  | nil => exact readOffsets_go_nil ofInt
  | cons hx _ ih => rw [readOffsets_go_cons, hx, ih]

theorem readOffsets_go_total (ofInt : Int → R) (items : List (Yaml R)) :
    readOffsets.go ofInt items = .error .parse ∨
    ∃ vals, readOffsets.go ofInt items = .ok vals ∧ vals.length = items.length := by
  induction items with
  | nil => exact .inr ⟨[], readOffsets_go_nil ofInt, rfl⟩
  | cons it rest ih =>
    rw [readOffsets_go_cons]
    cases hx : offEntry ofInt it with
    | error e => left; rw [offEntry_error ofInt it hx]
    | ok x =>
      rcases ih with h | ⟨vals, h, hl⟩
      · left; rw [h]
      · right; exact ⟨x :: vals, by rw [h], by simp [hl]⟩

theorem readOffsets_go_bad {ofInt : Int → R} {items : List (Yaml R)} {it : Yaml R} {e : YamlErr}
    (hm : it ∈ items) (hb : offEntry ofInt it = .error e) :
    readOffsets.go ofInt items = .error .parse := by
  induction items with
  | nil => simp at hm
  | cons a rest ih =>
    rw [readOffsets_go_cons]
    rcases List.mem_cons.1 hm with h | h
    · subst h; rw [hb, offEntry_error ofInt it hb]
    · cases hx : offEntry ofInt a with
      | error e' => rw [offEntry_error ofInt a hx]
      | ok x => rw [ih h]

theorem readOffsets_arr (ofInt : Int → R) (items : List (Yaml R)) :
    readOffsets ofInt (.arr items) =
      match readOffsets.go ofInt items with
      | .error e => .error e
      | .ok vals => checkSix 0 vals := by
  unfold readOffsets
  simp only [Yaml.asVec, Option.getD_some]
  cases readOffsets.go ofInt items with
  | error e => rfl
  | ok vals =>
    simp only [beq_iff_eq, bne_iff_ne, ne_eq, ite_not]
    rfl

theorem readOffsets_default {ofInt : Int → R} {y : Yaml R} (h : y.asVec = none) :
    readOffsets ofInt y = .ok (List.replicate 6 (ofInt 0)) := by
  unfold readOffsets
  rw [h]
  rfl

theorem readOffsets_total (ofInt : Int → R) (y : Yaml R) :
    (∃ v, readOffsets ofInt y = .ok v ∧ v.length = 6) ∨
    readOffsets ofInt y = .error .parse ∨
    (∃ n, readOffsets ofInt y = .error (.invalidLength n) ∧ n ≠ 5 ∧ n ≠ 6) := by
  cases y with
  | arr l =>
    rw [readOffsets_arr]
    rcases readOffsets_go_total ofInt l with h | ⟨vals, h, _⟩
    · exact .inr (.inl (by rw [h]))
    · rw [h]
      exact (checkSix_total 0 vals).imp_right fun h => .inr ⟨_, h⟩
  | _ => exact .inl ⟨_, readOffsets_default rfl, List.length_replicate⟩

def geoOf (doc : Yaml R) : Yaml R := doc.get "opw_kinematics_geometric_parameters"

/-- `as_number(&params[k])` -/
def geoNum (ofInt : Int → R) (doc : Yaml R) (k : String) : Option R :=
  ((geoOf doc).get k).asNumber ofInt

/-- the `dof` the reader extracts: top level first, then nested, then 6; cast to `i8` -/
def dofOf (doc : Yaml R) : Int :=
  toI8 (((doc.get "dof").asI64.orElse (fun _ => ((geoOf doc).get "dof").asI64)).getD 6)

def signsOf (doc : Yaml R) : Except YamlErr (List Int) :=
  readSigns (doc.get "opw_kinematics_joint_sign_corrections")

def offsOf (ofInt : Int → R) (doc : Yaml R) : Except YamlErr (List R) :=
  readOffsets ofInt (doc.get "opw_kinematics_joint_offsets")

/-- the seven field names in the order the reader checks them -/
def fieldNames : List String := ["a1", "a2", "b", "c1", "c2", "c3", "c4"]

def firstMissing (num : String → Option R) : Option String :=
  fieldNames.find? (fun k => (num k).isNone)

/-- the reader's checks in their order.  Where `firstMissing` is `none` all seven numbers exist and the
defaults of `getD` are never taken. -/
theorem fromYamlDocs_cons (ofInt : Int → R) (doc : Yaml R) (rest : List (Yaml R)) :
    fromYamlDocs ofInt true (doc :: rest) =
      match signsOf doc with
      | .error e => .error e
      | .ok s0 =>
        match firstMissing (geoNum ofInt doc) with
        | some k => .error (.missing k)
        | none =>
          match offsOf ofInt doc with
          | .error e => .error e
          | .ok offs => .ok ⟨(geoNum ofInt doc "a1").getD 0, (geoNum ofInt doc "a2").getD 0,
              (geoNum ofInt doc "b").getD 0, (geoNum ofInt doc "c1").getD 0,
              (geoNum ofInt doc "c2").getD 0, (geoNum ofInt doc "c3").getD 0,
              (geoNum ofInt doc "c4").getD 0, offs,
              if dofOf doc = 5 then s0.take 5 ++ [0] else s0, dofOf doc⟩ := by
  have e : ∀ k, ((doc.get "opw_kinematics_geometric_parameters").get k).asNumber ofInt =
      geoNum ofInt doc k := fun _ => rfl
  simp only [fromYamlDocs, e, signsOf, offsOf, dofOf, geoOf, firstMissing, fieldNames,
    List.find?_cons, Bool.not_true, Bool.false_eq_true, if_false, beq_iff_eq]
  cases readSigns (doc.get "opw_kinematics_joint_sign_corrections") with
  | error e => rfl
  | ok s0 =>
  -- both sides now branch on the seven numbers in the same order
  cases geoNum ofInt doc "a1" with
  | none => rfl
  | some _ =>
  cases geoNum ofInt doc "a2" with
  | none => rfl
  | some _ =>
  cases geoNum ofInt doc "b" with
  | none => rfl
  | some _ =>
  cases geoNum ofInt doc "c1" with
  | none => rfl
  | some _ =>
  cases geoNum ofInt doc "c2" with
  | none => rfl
  | some _ =>
  cases geoNum ofInt doc "c3" with
  | none => rfl
  | some _ =>
  cases geoNum ofInt doc "c4" <;> rfl

theorem fromYamlDocs_ok {ofInt : Int → R} {doc : Yaml R} (rest : List (Yaml R)) {s0 : List Int}
    {a1 a2 b c1 c2 c3 c4 : R} {offs : List R}
    (hs : signsOf doc = .ok s0)
    (h1 : geoNum ofInt doc "a1" = some a1) (h2 : geoNum ofInt doc "a2" = some a2)
    (h3 : geoNum ofInt doc "b" = some b) (h4 : geoNum ofInt doc "c1" = some c1)
    (h5 : geoNum ofInt doc "c2" = some c2) (h6 : geoNum ofInt doc "c3" = some c3)
    (h7 : geoNum ofInt doc "c4" = some c4) (ho : offsOf ofInt doc = .ok offs) :
    fromYamlDocs ofInt true (doc :: rest) =
      .ok ⟨a1, a2, b, c1, c2, c3, c4, offs,
        if dofOf doc = 5 then s0.take 5 ++ [0] else s0, dofOf doc⟩ := by
  rw [fromYamlDocs_cons, hs, ho]
  simp only [firstMissing, fieldNames, List.find?_cons, h1, h2, h3, h4, h5, h6, h7]
  rfl

/-- the top-level keys, in the order `to_yaml` writes them -/
def topKeys : List String := ["opw_kinematics_geometric_parameters", "opw_kinematics_joint_offsets",
  "opw_kinematics_joint_sign_corrections", "dof"]

theorem topKeys_nodup : topKeys.Nodup := by decide +kernel

theorem fieldNames_nodup : fieldNames.Nodup := by decide +kernel

section tree
variable (leafLen leafOff : R → Yaml R) (p : Params R) (signs : List Int)

theorem tree_signs :
    (toYamlTree leafLen leafOff p signs).get "opw_kinematics_joint_sign_corrections"
      = .arr (signs.map (fun s => .int s)) :=
  get_of_hasKey (hasKey_of_nodup topKeys_nodup rfl 2 rfl)

theorem tree_offs :
    (toYamlTree leafLen leafOff p signs).get "opw_kinematics_joint_offsets"
      = .arr (p.offsets.toList.map leafOff) :=
  get_of_hasKey (hasKey_of_nodup topKeys_nodup rfl 1 rfl)

theorem tree_dof : dofOf (toYamlTree leafLen leafOff p signs) = toI8 p.dof := by
  have h : HasKey (toYamlTree leafLen leafOff p signs) "dof" (.int p.dof) :=
    hasKey_of_nodup topKeys_nodup rfl 3 rfl
  rw [dofOf, get_of_hasKey h]
  rfl

theorem tree_geoNum (ofInt : Int → R) :
    geoNum ofInt (toYamlTree leafLen leafOff p signs) "a1" = (leafLen p.a1).asNumber ofInt ∧
    geoNum ofInt (toYamlTree leafLen leafOff p signs) "a2" = (leafLen p.a2).asNumber ofInt ∧
    geoNum ofInt (toYamlTree leafLen leafOff p signs) "b" = (leafLen p.b).asNumber ofInt ∧
    geoNum ofInt (toYamlTree leafLen leafOff p signs) "c1" = (leafLen p.c1).asNumber ofInt ∧
    geoNum ofInt (toYamlTree leafLen leafOff p signs) "c2" = (leafLen p.c2).asNumber ofInt ∧
    geoNum ofInt (toYamlTree leafLen leafOff p signs) "c3" = (leafLen p.c3).asNumber ofInt ∧
    geoNum ofInt (toYamlTree leafLen leafOff p signs) "c4" = (leafLen p.c4).asNumber ofInt := by
  have top : HasKey (toYamlTree leafLen leafOff p signs) "opw_kinematics_geometric_parameters" _ :=
    hasKey_of_nodup topKeys_nodup rfl 0 rfl
  have geo := @hasKey_of_nodup R _ _ fieldNames_nodup
  simp only [geoNum, geoOf, get_of_hasKey top]
  exact ⟨congrArg _ (get_of_hasKey (geo rfl 0 rfl)), congrArg _ (get_of_hasKey (geo rfl 1 rfl)),
    congrArg _ (get_of_hasKey (geo rfl 2 rfl)), congrArg _ (get_of_hasKey (geo rfl 3 rfl)),
    congrArg _ (get_of_hasKey (geo rfl 4 rfl)), congrArg _ (get_of_hasKey (geo rfl 5 rfl)),
    congrArg _ (get_of_hasKey (geo rfl 6 rfl))⟩

end tree

end Opw.YamlL
