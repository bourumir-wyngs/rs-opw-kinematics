/-
  For C02, "the answer set contains no duplicates", over ℝ.  The raw candidates are four arm solutions
  `[A, B, C, D]` followed by their wrist-flipped twins; `A, B` share the front shoulder angle, `C, D`
  the back one, and the members of each pair differ by the sign of the elbow `acos`.

  Everything rests on `candidates_match_unique_of`: for any pose and any `τ`, at most one POSITION of the
  list holds a vector congruent to `τ`, as soon as the two shoulder angles differ and the elbow `acos` of
  the shoulder that `τ` is on lies strictly between `0` and `π`.  Taking `τ` to be a member of the list
  gives "no two positions congruent".
-/
import OpwVerif.Lemmas.IkComplete

namespace Opw.IkDistinct
open Opw Opw.Wrist Opw.C02 Opw.IkComplete

theorem nodup_of_pairwise {l : List (J6 ℝ)} (h : List.Pairwise (fun a b => ¬ J6TurnEq a b) l) :
    l.Nodup :=
  List.Pairwise.imp (fun {a b} (hn : ¬ J6TurnEq a b) (e : a = b) => hn (e ▸ J6TurnEq.refl a)) h

theorem two_le_length_of_mem_ne {α : Type} {l : List α} {a b : α} (ha : a ∈ l) (hb : b ∈ l)
    (hab : a ≠ b) : 2 ≤ l.length :=
  -- the duplicate-free list `[a, b]` is contained in `l`
  (List.subperm_of_subset
    (List.nodup_cons.mpr ⟨fun h => hab (List.mem_singleton.mp h), List.nodup_singleton b⟩)
    (List.cons_subset.mpr ⟨ha, List.cons_subset.mpr ⟨hb, List.nil_subset l⟩⟩)).length_le

theorem not_turnEq_add_pi' (a : ℝ) : ¬ TurnEq (a + Real.pi) a :=
  fun h => not_turnEq_add_pi a h.symm

theorem flip_not_turnEq (x : J6 ℝ) : ¬ J6TurnEq x (C02.flip x) := fun g => not_turnEq_add_pi x.j4 g.2.2.2.1

/-- A list `l` of arm solutions followed by their wrist-flipped twins holds at most one vector
congruent to `τ`, provided the members of `l` on the shoulder of `τ` differ pairwise in `θ3`: a
member or twin on another shoulder fails to match in `θ1`, two that come from different members in
`θ3`, and a member and its own twin are half a turn apart in `θ4`. -/
theorem match_unique_append_flip (τ : J6 ℝ) {l : List (J6 ℝ)}
    (h : l.Pairwise fun x y => TurnEq x.j1 τ.j1 → TurnEq y.j1 τ.j1 → ¬ TurnEq x.j3 y.j3) :
    (l ++ l.map C02.flip).Pairwise fun a b => ¬ (J6TurnEq a τ ∧ J6TurnEq b τ) := by
  -- `flip` leaves `θ1` and `θ3` alone, so `x`, `y` below may be members or twins
  have hR : ∀ {x y : J6 ℝ}, (TurnEq x.j1 τ.j1 → TurnEq y.j1 τ.j1 → ¬ TurnEq x.j3 y.j3) →
      ¬ (J6TurnEq x τ ∧ J6TurnEq y τ) :=
    fun h g => h g.1.1 g.2.1 (g.1.2.2.1.trans g.2.2.2.1.symm)
  rw [List.pairwise_append, List.pairwise_map]
  refine ⟨h.imp hR, h.imp fun hab => hR (x := C02.flip _) (y := C02.flip _) hab, fun a ha b hb => ?_⟩
  obtain ⟨c, hc, rfl⟩ := List.mem_map.mp hb
  have hx : l.Pairwise fun x y => ¬ (J6TurnEq x τ ∧ J6TurnEq (C02.flip y) τ) :=
    h.imp fun hab => hR (y := C02.flip _) hab
  have hy : l.Pairwise fun x y => ¬ (J6TurnEq y τ ∧ J6TurnEq (C02.flip x) τ) :=
    h.imp fun hab g => hR (x := C02.flip _) hab (And.symm g)
  exact hx.forall_of_forall_of_flip (fun x _ g => flip_not_turnEq x (g.1.trans g.2.symm)) hy ha hc

theorem pairwise_of_match_unique {l : List (J6 ℝ)}
    (h : ∀ τ, l.Pairwise fun a b => ¬ (J6TurnEq a τ ∧ J6TurnEq b τ)) :
    l.Pairwise fun a b => ¬ J6TurnEq a b :=
  List.pairwise_iff_forall_sublist.mpr fun hab g =>
    List.pairwise_iff_forall_sublist.mp (h _) hab ⟨g, J6TurnEq.refl _⟩

theorem candidates_match_unique_of (p : Params ℝ) (pose : Iso ℝ) (τ : J6 ℝ)
    (h1 : ¬ TurnEq (th1i p (wc p pose)) (th1ii p (wc p pose)))
    (h11 : TurnEq (th1i p (wc p pose)) τ.j1 →
      0 < tmp11 p (wc p pose) ∧ tmp11 p (wc p pose) < Real.pi)
    (h12 : TurnEq (th1ii p (wc p pose)) τ.j1 →
      0 < tmp12 p (wc p pose) ∧ tmp12 p (wc p pose) < Real.pi) :
    List.Pairwise (fun a b => ¬ (J6TurnEq a τ ∧ J6TurnEq b τ)) (thetaCandidates p pose) := by
  have hfb : ∀ {x y : ℝ}, TurnEq (th1i p (wc p pose)) τ.j1 → TurnEq (th1ii p (wc p pose)) τ.j1 →
      ¬ TurnEq x y := fun a b => absurd (a.trans b.symm) h1
  rw [thetaCandidates_eq]
  refine match_unique_append_flip τ (l := [_, _, _, _]) ?_
  simp only [List.pairwise_cons, List.mem_cons, List.not_mem_nil, or_false, forall_eq_or_imp,
    forall_eq, IsEmpty.forall_iff, implies_true, and_true, List.Pairwise.nil]
  -- rows A, B (front shoulder, two elbows), C, D (back shoulder); the six pairs in the order
  -- (A,B), (A,C), (A,D); (B,C), (B,D); (C,D)
  exact ⟨⟨fun a _ => elbow_pair_distinct (h11 a), hfb, hfb⟩, ⟨hfb, hfb⟩,
    fun c _ => elbow_pair_distinct (h12 c)⟩

theorem shoulder_distinct_of (p : Params ℝ) (c : V3 ℝ) (h : 0 < nx1 p c + p.a1) :
    ¬ TurnEq (th1i p c) (th1ii p c) :=
  not_turnEq_sub_add (Complex.arg ⟨c.x, c.y⟩) (Complex.abs_arg_lt_pi_div_two_iff.mpr (Or.inl h))

theorem elbowAcos_mem (p : Params ℝ) (hc : 0 < p.c2) (hk : 0 < kappa p) {S : ℝ}
    (h : |S - p.c2 ^ 2 - kappa p ^ 2| < 2 * p.c2 * kappa p) :
    0 < elbowAcos p S ∧ elbowAcos p S < Real.pi := by
  have hpos : 0 < 2 * p.c2 * kappa p := by positivity
  have hr : |(S - p.c2 * p.c2 - kappa p * kappa p) / (2 * p.c2 * kappa p)| < 1 := by
    rw [← sq, ← sq, abs_div, abs_of_pos hpos, div_lt_one hpos]; exact h
  rw [elbowAcos_eq]
  exact ⟨Real.arccos_pos.mpr (abs_lt.mp hr).2, Real.arccos_lt_pi.mpr (abs_lt.mp hr).1⟩

/-- squared distance from the J2 axis of the OTHER shoulder configuration to the wrist centre -/
noncomputable def otherS2 (p : Params ℝ) (θ : J6 ℝ) : ℝ :=
  (armX p θ + 2 * p.a1) ^ 2 + cz1 p θ ^ 2

/-- the other shoulder configuration (J1 turned by half a turn, arm reaching over) reaches the wrist
centre of `θ` with an elbow that is neither stretched nor folded -/
def OtherShoulderRegular (p : Params ℝ) (θ : J6 ℝ) : Prop :=
  |otherS2 p θ - p.c2 ^ 2 - kappa p ^ 2| < 2 * p.c2 * kappa p

/-- the own shoulder configuration is regular in the same sense: `s² − c2² − κ² = 2·c2·κ·cos φ` -/
theorem ownShoulder_regular (p : Params ℝ) (θ : J6 ℝ) (hc : 0 < p.c2) (hk : 0 < kappa p)
    (he : Real.sin (phi p θ) ≠ 0) :
    |uu p θ * uu p θ + vv p θ * vv p θ - p.c2 ^ 2 - kappa p ^ 2| < 2 * p.c2 * kappa p := by
  have hpos : 0 < 2 * p.c2 * kappa p := by positivity
  have e : uu p θ * uu p θ + vv p θ * vv p θ - p.c2 ^ 2 - kappa p ^ 2 =
      2 * p.c2 * kappa p * Real.cos (phi p θ) := by
    unfold uu vv; rw [law_of_cosines]; ring
  rw [e, abs_mul, abs_of_pos hpos]
  exact mul_lt_of_lt_one_right hpos (Angle.abs_cos_lt_one he)

theorem s2sq_front_other (p : Params ℝ) (θ : J6 ℝ) (h : 0 < cx1 p θ) :
    s2sq p (wcθ p θ) = otherS2 p θ := by
  unfold s2sq otherS2
  rw [lit2, nx1_front p θ h, wcθ_z]; ring

theorem s1sq_back_other (p : Params ℝ) (θ : J6 ℝ) (h : cx1 p θ < 0) :
    s1sq p (wcθ p θ) = otherS2 p θ := by
  unfold s1sq otherS2
  rw [eq_sub_of_add_eq (nx1_back p θ h), wcθ_z]; ring

/-- with `a1 = 0` the other shoulder configuration is the mirror image of the own one -/
theorem otherShoulderRegular_of_a1_zero (p : Params ℝ) (θ : J6 ℝ) (h : NonSingular p θ)
    (ha : p.a1 = 0) : OtherShoulderRegular p θ := by
  have e : otherS2 p θ = uu p θ * uu p θ + vv p θ * vv p θ := by
    unfold otherS2; rw [ha, ← reach_sq]; ring
  unfold OtherShoulderRegular
  rw [e]
  exact ownShoulder_regular p θ h.c2_pos h.kappa_pos h.elbow

/-- the wrist of `θ` may be singular -/
theorem candidates_match_unique_gen (p : Params ℝ) (θ : J6 ℝ) (hc : 0 < p.c2) (hk : 0 < kappa p)
    (hsh : cx1 p θ ≠ 0) (hel : Real.sin (phi p θ) ≠ 0) (τ : J6 ℝ)
    (hτ : TurnEq τ.j1 θ.j1 ∨ OtherShoulderRegular p θ) :
    List.Pairwise (fun a b => ¬ (J6TurnEq a τ ∧ J6TurnEq b τ)) (thetaCandidates p (poseOf p θ)) := by
  have h1 := shoulder_distinct_of p _ (by rw [nx1_eq, sub_add_cancel]; exact abs_pos.mpr hsh)
  have own := elbowAcos_mem p hc hk (ownShoulder_regular p θ hc hk hel)
  have hG := candidates_match_unique_of p (poseOf p θ) τ
  rw [wc_poseOf] at hG
  rcases lt_or_gt_of_ne hsh with hb | hf
  · -- back shoulder: `θ1_ii ≡ θ1`, `tmp12` is the own elbow and `tmp11` the other one
    rw [← s2sq_back p θ hb] at own
    refine hG h1 (fun g => hτ.elim (fun hτ => ?_) fun ho => ?_) fun _ => own
    · exact absurd (g.trans (hτ.trans (th1ii_back p θ hb).symm)) h1
    · have oth := elbowAcos_mem p hc hk ho
      rwa [← s1sq_back_other p θ hb] at oth
  · -- front shoulder: `θ1_i ≡ θ1`, `tmp11` is the own elbow and `tmp12` the other one
    rw [← s1sq_front p θ hf] at own
    refine hG h1 (fun _ => own) fun g => hτ.elim (fun hτ => ?_) fun ho => ?_
    · exact absurd ((th1i_front p θ hf).trans (hτ.symm.trans g.symm)) h1
    · have oth := elbowAcos_mem p hc hk ho
      rwa [← s2sq_front_other p θ hf] at oth

theorem candidates_pairwise (p : Params ℝ) (θ : J6 ℝ) (h : NonSingular p θ)
    (ho : OtherShoulderRegular p θ) :
    List.Pairwise (fun a b => ¬ J6TurnEq a b) (thetaCandidates p (poseOf p θ)) :=
  pairwise_of_match_unique fun τ =>
    candidates_match_unique_gen p θ h.c2_pos h.kappa_pos h.shoulder h.elbow τ (Or.inr ho)

/-- without the assumption on the other shoulder, for `τ` on the own shoulder of `θ` (e.g. `θ` itself
or its wrist-flipped twin) -/
theorem candidates_match_unique (p : Params ℝ) (θ : J6 ℝ) (h : NonSingular p θ) (τ : J6 ℝ)
    (hτ : TurnEq τ.j1 θ.j1) :
    List.Pairwise (fun a b => ¬ (J6TurnEq a τ ∧ J6TurnEq b τ)) (thetaCandidates p (poseOf p θ)) :=
  candidates_match_unique_gen p θ h.c2_pos h.kappa_pos h.shoulder h.elbow τ (Or.inl hτ)

theorem finish_turnEq_reflect (p : Params ℝ) (hs : SignsOk p) {t t' : J6 ℝ}
    (h : J6TurnEq ((jointsOf p t).map normPi) ((jointsOf p t').map normPi)) : J6TurnEq t t' :=
  (thetaOf_finish_turnEq p hs t).symm.trans
    ((thetaOf_turnEq p hs h).trans (thetaOf_finish_turnEq p hs t'))

theorem inverseIntern_pairwise_transport (p : Params ℝ) (pose : Iso ℝ)
    {R S : J6 ℝ → J6 ℝ → Prop}
    (H : ∀ a a', R a a' → S ((jointsOf p a).map normPi) ((jointsOf p a').map normPi))
    (h : List.Pairwise R (thetaCandidates p pose)) : List.Pairwise S (inverseIntern p pose) := by
  unfold inverseIntern
  refine List.Pairwise.filterMap _ ?_ h
  intro a a' hR b hb b' hb'
  obtain ⟨-, rfl, -⟩ := finishCandidate_eq_some.mp hb
  obtain ⟨-, rfl, -⟩ := finishCandidate_eq_some.mp hb'
  exact H a a' hR

theorem inverseIntern_pairwise_of (p : Params ℝ) (hs : SignsOk p) (pose : Iso ℝ)
    (h : List.Pairwise (fun a b => ¬ J6TurnEq a b) (thetaCandidates p pose)) :
    List.Pairwise (fun a b => ¬ J6TurnEq a b) (inverseIntern p pose) :=
  inverseIntern_pairwise_transport p pose
    (fun _ _ hR g => hR (finish_turnEq_reflect p hs g)) h

theorem finishCandidate_isSome (p : Params ℝ) (pose : Iso ℝ) (s : J6 ℝ) :
    (finishCandidate p pose s).isSome = comparePoses pose (forward p (s.map normPi)) distTol angTol := by
  unfold finishCandidate
  rw [allFinite_real]
  simp only [if_true]
  split <;> simp_all

/-- a triangle with sides `c2`, `κ` cannot close over a distance `s ≥ c2 + κ` -/
theorem one_le_ratios_of_far {c2 κ s : ℝ} (hc : 0 < c2) (hk : 0 < κ) (h : c2 + κ ≤ s) :
    1 ≤ (s * s - c2 * c2 - κ * κ) / (2 * c2 * κ) ∧ 1 ≤ (s * s + c2 * c2 - κ * κ) / (2 * s * c2) := by
  have hs : 0 < s := by linarith
  have h1 := mul_self_le_mul_self (by positivity) h
  have h2 := mul_self_le_mul_self hk.le (le_sub_iff_add_le'.mpr h)
  rw [one_le_div (by positivity), one_le_div (by positivity)]
  constructor <;> linarith

/-- out of reach of the back-shoulder arm both `acos` are clamped to `0` and `C`, `D` coincide -/
theorem back_pair_eq_of_far (p : Params ℝ) (c : V3 ℝ) (m : M3 ℝ) (hc : 0 < p.c2)
    (hk : 0 < kappa p) (h : (p.c2 + kappa p) ^ 2 ≤ s2sq p c) :
    cand m (th1ii p c) (th2iii p c) (th3iii p c) = cand m (th1ii p c) (th2iv p c) (th3iv p c) := by
  have hs0 : 0 ≤ s2sq p c := (sq_nonneg _).trans h
  obtain ⟨r12, r15⟩ := one_le_ratios_of_far hc hk (Real.le_sqrt_of_sq_le h)
  rw [Real.mul_self_sqrt hs0] at r12 r15
  have e12 : tmp12 p c = 0 := (elbowAcos_eq p _).trans (Real.arccos_eq_zero.mpr r12)
  have e15 : tmp15 p c = 0 := (shoulderAcos_eq p _).trans (Real.arccos_eq_zero.mpr r15)
  have e2 : th2iii p c = th2iv p c := by unfold th2iii th2iv; rw [e15, neg_zero]
  have e3 : th3iii p c = th3iv p c := by unfold th3iii th3iv; rw [e12, neg_zero]
  rw [e2, e3]

end Opw.IkDistinct
