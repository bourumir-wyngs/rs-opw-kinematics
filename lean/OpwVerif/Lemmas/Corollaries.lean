/-
  Where completeness (`IkComplete`) meets the bounds of `Nearest.lean`, over ℝ: the exact round trip of
  `inverse_intern` (`ik_roundtrip_intern`: an answer equal to `j` modulo turns and within π IS `j`), what
  `normalize_near` does to an answer that is already close, and the head of a sorted list: what C04b
  (trajectory following) and C06b (the 5-DOF solvers return the originating J1..J5) are proved from.
-/
import OpwVerif.Lemmas.IkComplete
import OpwVerif.Lemmas.FiveDof
import OpwVerif.Lemmas.SoundReal

namespace Opw.IkComplete
open Opw Opw.Wrist Opw.C02

theorem signsOk_absLe {p : Params ℝ} (hs : SignsOk p) : Nearest.absLe p.signs 1 := by
  obtain ⟨s1, s2, s3, s4, s5, s6⟩ := hs
  exact ⟨(IsSign.abs s1).le, (IsSign.abs s2).le, (IsSign.abs s3).le, (IsSign.abs s4).le,
    (IsSign.abs s5).le, (IsSign.abs s6).le⟩

def InsidePi (j : J6 ℝ) : Prop :=
  |j.j1| < Real.pi ∧ |j.j2| < Real.pi ∧ |j.j3| < Real.pi ∧ |j.j4| < Real.pi ∧ |j.j5| < Real.pi ∧
    |j.j6| < Real.pi

/-- the bound `100000` rad on the offsets is a round number under which the `normFuel` iterations of
the normalisation loop suffice (`Nearest.raw_add_offset_le`) -/
theorem ik_roundtrip_intern (p : Params ℝ) (hs : SignsOk p) (ho : Nearest.absLe p.offsets 100000)
    (j : J6 ℝ) (hj : InsidePi j) (h : NonSingular p (thetaOf p j)) :
    j ∈ inverseIntern p (forward p j) := by
  obtain ⟨s, hs1, e1, e2, e3, e4, e5, e6⟩ := ik_complete_intern_joint p hs j h
  obtain ⟨b1, b2, b3, b4, b5, b6⟩ := Nearest.inverseIntern_absLe Nearest.raw_add_offset_le p _ s (signsOk_absLe hs) ho hs1
  obtain ⟨j1, j2, j3, j4, j5, j6⟩ := hj
  have : s = j := J6.ext' (eq_of_turnEq_of_abs e1 b1 j1) (eq_of_turnEq_of_abs e2 b2 j2)
    (eq_of_turnEq_of_abs e3 b3 j3) (eq_of_turnEq_of_abs e4 b4 j4) (eq_of_turnEq_of_abs e5 b5 j5)
    (eq_of_turnEq_of_abs e6 b6 j6)
  -- rewrite in `hs1` only: `this ▸ hs1` also turns the `j` under `forward` into `s` and then has to
  -- compare the two poses by unfolding `forward`
  rwa [this] at hs1

end Opw.IkComplete

namespace Opw.Corollaries
open Opw Opw.Wrist Opw.C02 Opw.IkComplete

/-- one pass of `adjust`: within `π` of `prev` and not `±π` itself — nothing happens -/
theorem adjustNear_of_close (now prev : ℝ) (h : |now - prev| ≤ Real.pi) (hn : |now| ≠ Real.pi) :
    adjustNear now prev = now := by
  rw [Nearest.adjustNear_eq, Nearest.adj12_of_close now prev h, if_neg]
  unfold Nearest.flips
  exact fun hf => hn hf.1

theorem normalizeNear_of_close (now prev : ℝ) (h : |now - prev| ≤ Real.pi) (hn : |now| ≠ Real.pi) :
    normalizeNear now prev = now := by
  unfold normalizeNear
  rw [adjustNear_of_close now prev h hn, adjustNear_of_close now prev h hn]

theorem J6_normalizeNear_of_close (q prev : J6 ℝ) (hin : InsidePi q)
    (hw : Nearest.within q prev Real.pi) : q.normalizeNear prev = q := by
  obtain ⟨i1, i2, i3, i4, i5, i6⟩ := hin
  obtain ⟨w1, w2, w3, w4, w5, w6⟩ := hw
  simp only [J6.normalizeNear, J6.zipWith, normalizeNear_of_close _ _ w1 i1.ne,
    normalizeNear_of_close _ _ w2 i2.ne, normalizeNear_of_close _ _ w3 i3.ne,
    normalizeNear_of_close _ _ w4 i4.ne, normalizeNear_of_close _ _ w5 i5.ne,
    normalizeNear_of_close _ _ w6 i6.ne]

theorem within_self (q : J6 ℝ) : Nearest.within q q Real.pi := by
  have h : ∀ x : ℝ, |x - x| ≤ Real.pi := fun x => by rw [sub_self, abs_zero]; exact Real.pi_pos.le
  exact ⟨h _, h _, h _, h _, h _, h _⟩

theorem mem_of_head? {α : Type} {l : List α} {h : α} (hh : l.head? = some h) : h ∈ l :=
  List.mem_of_head? hh

/-- the head of a cost-sorted list is a cheapest member (`Nearest.head_of_sorted_min` with the head
named) -/
theorem head_le_of_sorted {α : Type} (f : α → ℝ) (l : List α)
    (hs : l.Pairwise (fun a b => f a ≤ f b)) {h : α} (hh : l.head? = some h) {x : α} (hx : x ∈ l) :
    f h ≤ f x := by
  obtain ⟨h', hh', hle⟩ := Nearest.head_of_sorted_min f l hs hx
  rw [hh] at hh'
  cases hh'
  exact hle

theorem head_eq_of_sorted_of_sep {α : Type} (f : α → ℝ) (l : List α)
    (hs : l.Pairwise (fun a b => f a ≤ f b)) {q : α} (hq : q ∈ l)
    (hsep : ∀ s ∈ l, s ≠ q → f q < f s) : l.head? = some q := by
  obtain ⟨h, hh, hle⟩ := Nearest.head_of_sorted_min f l hs hq
  by_contra hne
  exact absurd (hsep h (mem_of_head? hh) fun e => hne (e ▸ hh)) (not_lt.mpr hle)

def InsidePi5 (j : J6 ℝ) : Prop :=
  |j.j1| < Real.pi ∧ |j.j2| < Real.pi ∧ |j.j3| < Real.pi ∧ |j.j4| < Real.pi ∧ |j.j5| < Real.pi

theorem J5TurnEq_normalizeNear (s prev : J6 ℝ) : J5TurnEq (s.normalizeNear prev) s :=
  .of_J6 (SoundReal.normalizeNear_turnEq s prev)

end Opw.Corollaries
