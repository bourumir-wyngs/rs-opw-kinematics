/-
  The numeric Jacobian of a WRAPPED robot (Tool / Base / Frame / KinematicsWithShape stack without
  Parallelogram) against the geometric Jacobian, over ℝ: joint `i` of `k.forward` is `Revolute`
  about the base-moved axis through the base-moved link origin (`stack_revolute`, by induction over
  the stack from `JacCols.forward_revolute`, a Tool or Frame being `Revolute.tool`, a Base
  `Revolute.base`), and link `i` of `k.links j` carries that axis and origin.
-/
import OpwVerif.Lemmas.JacCols
import OpwVerif.Lemmas.Stack
namespace Opw.JacStack
open Opw.JacCols

/-- rotation by `φ` about the base-moved axis of joint `i`: `R_B Eᵢ(φ) R_Bᵀ`, `B = k.baseOf` -/
noncomputable def stackRot (k : Kin ℝ) (j : J6 ℝ) (i : Nat) (φ : ℝ) : M3 ℝ :=
  JacCols.conj k.baseOf.q.toMat (jointRot (thetaOf k.core.p j) i φ)

/-- axis of joint `i` of the stack in the world frame: `R_B aᵢ` -/
noncomputable def stackAxis (k : Kin ℝ) (j : J6 ℝ) (i : Nat) : V3 ℝ :=
  k.baseOf.q.toMat.mulVec (worldAxis (thetaOf k.core.p j) i)

/-- origin of link `i` of the stack in the world frame: `B · oᵢ` -/
noncomputable def stackOrg (k : Kin ℝ) (j : J6 ℝ) (i : Nat) : V3 ℝ :=
  k.baseOf.transformPoint (linkOrg k.core.p (thetaOf k.core.p j) i)

theorem IsRot_baseOf (k : Kin ℝ) (hw : k.WF) : IsRot k.baseOf.q.toMat :=
  IsRot_toMat _ (Kin.baseOf_unit k hw)

theorem stackAxis_normSq (k : Kin ℝ) (hw : k.WF) (j : J6 ℝ) (i : Nat) :
    (stackAxis k j i).normSq = 1 := by
  unfold stackAxis
  rw [(IsRot_baseOf k hw).normSq_mulVec, worldAxis_normSq]

theorem stackRot_eq (k : Kin ℝ) (hw : k.WF) (j : J6 ℝ) (i : Nat) (φ : ℝ) :
    stackRot k j i φ = axisRot (stackAxis k j i) φ := by
  unfold stackRot stackAxis
  rw [jointRot_eq, conj_axisRot (IsRot_baseOf k hw)]

theorem stack_data_opw (k : Opw ℝ) (j : J6 ℝ) (i : Nat) :
    stackAxis (.opw k) j i = worldAxis (thetaOf k.p j) i ∧
    stackOrg (.opw k) j i = linkOrg k.p (thetaOf k.p j) i := by
  refine ⟨?_, Iso.transformPoint_one _⟩
  show (Quat.one : Quat ℝ).toMat.mulVec _ = _
  rw [Quat.toMat_one, M3.one_mulVec]; rfl

theorem stackAxis_base (k : Kin ℝ) (b : Iso ℝ) (j : J6 ℝ) (i : Nat) :
    stackAxis (.base k b) j i = b.q.toMat.mulVec (stackAxis k j i) := by
  show (b.q.mul k.baseOf.q).toMat.mulVec _ = b.q.toMat.mulVec (k.baseOf.q.toMat.mulVec _)
  rw [Quat.toMat_mul, M3.mulVec_mulVec]; rfl

theorem stackOrg_base (k : Kin ℝ) (hw : k.WF) (b : Iso ℝ) (hb : b.q.normSq = 1) (j : J6 ℝ) (i : Nat) :
    stackOrg (.base k b) j i = b.transformPoint (stackOrg k j i) :=
  Iso.transformPoint_mul b k.baseOf hb (Kin.baseOf_unit k hw) _

theorem stack_revolute : ∀ (k : Kin ℝ), k.noPara → k.WF → ∀ (j : J6 ℝ) {i : Nat}, i < 6 →
    Revolute k.forward j i (stackAxis k j i) (stackOrg k j i) (k.core.p.signs.get i)
  | .opw k, _, _, j, i, hi => by
    rw [(stack_data_opw k j i).1, (stack_data_opw k j i).2]
    exact forward_revolute k.p j hi
  | .tool k t, hp, hw, j, _, hi => (stack_revolute k hp hw.1 j hi).tool t hw.2
  | .frame k f, hp, hw, j, _, hi => (stack_revolute k hp hw.1 j hi).tool f hw.2
  | .base k b, hp, hw, j, i, hi => by
    rw [stackAxis_base, stackOrg_base k hw.1 b hw.2]
    exact (stack_revolute k hp hw.1 j hi).base b hw.2
  | .shape k _, hp, hw, j, _, hi => stack_revolute k hp hw j hi
  | .para _ _ _ _, hp, _, _, _, _ => hp.elim

/-- stacks without a `Frame` wrapper (a `Frame` multiplies the LAST link pose by the frame transform,
so that pose no longer sits on the axis of joint 6) -/
def frameFree : Kin ℝ → Prop
  | .opw _ => True
  | .tool i _ => frameFree i
  | .base i _ => frameFree i
  | .frame _ _ => False
  | .para i _ _ _ => frameFree i
  | .shape i _ => frameFree i

theorem links_frame_lt (k : Kin ℝ) (f : Iso ℝ) (j : J6 ℝ) {i : Nat} (hi : i < 5) :
    ((Kin.frame k f).links j)[i]? = (k.links j)[i]? := by
  simp only [Kin.links]
  split
  · rename_i heq
    rw [heq]
    rcases six_cases (Nat.lt_succ_of_lt hi) with rfl | rfl | rfl | rfl | rfl | rfl
    exacts [rfl, rfl, rfl, rfl, rfl, absurd hi (lt_irrefl 5)]
  · rfl

/-- for the last link (`i = 5`) the stack must not contain a `Frame` (see `frameFree`) -/
theorem stack_link_axis_origin : ∀ (k : Kin ℝ), k.noPara → k.WF → ∀ (j : J6 ℝ) {i : Nat}, i < 6 →
    (i < 5 ∨ frameFree k) →
    ∃ l : Iso ℝ, (k.links j)[i]? = some l ∧ l.q.normSq = 1 ∧ l.t = stackOrg k j i ∧
      l.q.rotate (localAxis i) = stackAxis k j i
  | .opw k, _, _, j, i, hi, _ => by
    rw [(stack_data_opw k j i).1, (stack_data_opw k j i).2]
    exact chain_link_axis_origin k.p j hi
  | .tool k _, hp, hw, j, _, hi, hf => stack_link_axis_origin k hp hw.1 j hi hf
  | .shape k _, hp, hw, j, _, hi, hf => stack_link_axis_origin k hp hw j hi hf
  | .para _ _ _ _, hp, _, _, _, _, _ => hp.elim
  | .base k b, hp, hw, j, i, hi, hf => by
    obtain ⟨l, hl, hu, ho, ha⟩ := stack_link_axis_origin k hp hw.1 j hi hf
    refine ⟨b.mul l, ?_, Iso.mul_unit b l hw.2 hu, ?_, ?_⟩
    · show ((k.links j).map (fun x => b.mul x))[i]? = some (b.mul l)
      rw [List.getElem?_map, hl]
      rfl
    · rw [stackOrg_base k hw.1 b hw.2, ← ho]
      exact V3.add_comm _ _
    · show (b.q.mul l.q).rotate _ = _
      rw [Quat.rotate_mul _ _ hw.2 hu, ha, stackAxis_base, Quat.rotate_eq_mulVec _ hw.2]
  | .frame k f, hp, hw, j, i, hi, hf => by
    have hi5 : i < 5 := hf.resolve_right id
    obtain ⟨l, hl, h⟩ := stack_link_axis_origin k hp hw.1 j hi (Or.inl hi5)
    exact ⟨l, (links_frame_lt k f j hi5).trans hl, h⟩

theorem stack_link_revolute (k : Kin ℝ) (hp : k.noPara) (hw : k.WF) (j : J6 ℝ) {i : Nat}
    (hi : i < 6) (hf : i < 5 ∨ frameFree k) :
    ∃ l : Iso ℝ, (k.links j)[i]? = some l ∧
      Revolute k.forward j i (l.q.rotate (localAxis i)) l.t (k.core.p.signs.get i) := by
  obtain ⟨l, hl, -, ho, ha⟩ := stack_link_axis_origin k hp hw j hi hf
  refine ⟨l, hl, ?_⟩
  rw [ha, ho]
  exact stack_revolute k hp hw j hi

end Opw.JacStack
