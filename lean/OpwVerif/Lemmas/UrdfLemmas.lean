/-
  Helper lemmas for C20 (`Props/C20.lean`): the joint map (`convertToMap`, lookups), `populate`
  (dependence on lookups only, per-joint steps), pre-order collection (`collectList`), `jointOf`.
  Everything is generic in the number type; the three facts about zero and negation the round trip
  needs are collected in `ZeroLaws` (proved for `ℝ` in `Props/C20.lean`).
-/
import OpwVerif.Urdf
namespace Opw.UrdfL
variable {R : Type} [OpwNum R]
-- many statements below hold for any `R`; all carry `[OpwNum R]`, like those of `Props/C20.lean`
set_option linter.unusedSectionVars false

/-- Rust's `as i8` leaves an `i8` alone -/
theorem wrapI8_id {s : Int} (h1 : -128 ≤ s) (h2 : s ≤ 127) : wrapI8 s = s := by
  -- `wrapI8` is the balanced remainder modulo 256 (`(256 + 1) / 2 = 128` by `rfl`)
  have e : wrapI8 s = s.bmod 256 := by
    simp only [wrapI8, Int.bmod_def, ge_iff_le, ← Int.not_lt, ite_not]
    rfl
  rw [e]
  exact Int.bmod_eq_of_le h1 (Int.lt_of_le_sub_one h2)

/-- lookup by joint name (what `HashMap::get` does on the map built by `convertToMap`) -/
abbrev look (m : List (JointData R)) (n : String) : Option (JointData R) :=
  m.find? (fun j => j.name == n)

def Compat (a b : JointData R) : Prop := a.name = b.name → a.eqv b = true

theorem convertToMap_append (acc a b : List (JointData R)) :
    convertToMap acc (a ++ b) = (convertToMap acc a).bind (fun m => convertToMap m b) := by
  fun_induction convertToMap acc a with
  | case1 => rfl
  | case2 acc j rest e he heq ih => simp only [List.cons_append, convertToMap, he, heq, if_true, ih]
  | case3 acc j rest e he hne => simp only [List.cons_append, convertToMap, he, hne]; rfl
  | case4 acc j rest he ih => simp only [List.cons_append, convertToMap, he, ih]

theorem convertToMap_find {acc js m : List (JointData R)} (h : convertToMap acc js = some m)
    (n : String) : look m n = look (acc ++ js) n := by
  fun_induction convertToMap acc js with
  | case1 acc => cases h; rw [List.append_nil]
  | case2 acc j rest e he heq ih =>
    -- `j` is shadowed by the earlier entry `e` of the same name
    rw [ih h, look, look, List.find?_append, List.find?_append, List.find?_cons]
    by_cases hn : (j.name == n) = true
    · obtain rfl : j.name = n := by simpa using hn
      rw [he]; rfl
    · rw [Bool.not_eq_true] at hn; rw [hn]
  | case3 => cases h
  | case4 acc j rest he ih => rw [ih h, List.append_assoc]; rfl

theorem convertToMap_look {js m : List (JointData R)} (h : convertToMap [] js = some m)
    (n : String) : look m n = look js n :=
  convertToMap_find h n

theorem convertToMap_isSome {acc js : List (JointData R)}
    (hc : ∀ e ∈ acc, ∀ j ∈ js, Compat e j) (hp : js.Pairwise Compat) :
    ∃ m, convertToMap acc js = some m := by
  fun_induction convertToMap acc js with
  | case1 acc => exact ⟨acc, rfl⟩
  | case2 acc j rest e he heq ih =>
    exact ih (fun e he j' hj' => hc e he j' (List.mem_cons_of_mem _ hj')) (List.pairwise_cons.1 hp).2
  | case3 acc j rest e he hne =>
    -- the entry found has the name of `j`, so it is compatible with it
    exact absurd (hc e (List.mem_of_find?_eq_some he) j (List.mem_cons_self ..)
      (by simpa using List.find?_some he)) hne
  | case4 acc j rest he ih =>
    rw [List.pairwise_cons] at hp
    refine ih (fun e he j' hj' => ?_) hp.2
    rcases List.mem_append.1 he with he | he
    · exact hc e he j' (List.mem_cons_of_mem _ hj')
    · obtain rfl : e = j := by simpa using he
      exact hp.1 j' hj'

theorem convertToMap_isSome_nil {js : List (JointData R)} (hp : js.Pairwise Compat) :
    ∃ m, convertToMap [] js = some m :=
  convertToMap_isSome (fun _ h => (List.not_mem_nil h).elim) hp

theorem convertToMap_entry {acc js m : List (JointData R)} (h : convertToMap acc js = some m)
    {j : JointData R} (hj : j ∈ js) :
    ∃ e, look m j.name = some e ∧ (e = j ∨ e.eqv j = true) := by
  have hfind := convertToMap_find h
  fun_induction convertToMap acc js with
  | case1 => cases hj
  | case2 acc j0 rest e he heq ih =>
    rcases List.mem_cons.1 hj with rfl | hm
    · exact ⟨e, by rw [hfind, look, List.find?_append, he]; rfl, .inr heq⟩
    · exact ih h hm (convertToMap_find h)
  | case3 => cases h
  | case4 acc j0 rest he ih =>
    rcases List.mem_cons.1 hj with rfl | hm
    · refine ⟨j, ?_, .inl rfl⟩
      rw [hfind, look, List.find?_append, he, List.find?_cons, beq_self_eq_true]; rfl
    · exact ih h hm (convertToMap_find h)

theorem convertToMap_some_unique (heq : ∀ a b : JointData R, a.eqv b = true → a = b)
    {js m : List (JointData R)} (h : convertToMap [] js = some m)
    {a b : JointData R} (ha : a ∈ js) (hb : b ∈ js) (hn : a.name = b.name) : a = b := by
  obtain ⟨e, he, hea⟩ := convertToMap_entry h ha
  obtain ⟨e', he', heb⟩ := convertToMap_entry h hb
  rw [hn, he'] at he
  cases he
  have h1 : e = a := hea.elim id (heq _ _)
  have h2 : e = b := heb.elim id (heq _ _)
  rw [← h1, ← h2]

theorem populateGo_congr {m m' : List (JointData R)} (h : ∀ n, look m n = look m' n)
    (k : Nat) (names : List String) (u : UParams R) :
    populateGo m k names u = populateGo m' k names u := by
  induction names generalizing k u with
  | nil => rfl
  | cons n rest ih =>
    simp only [populateGo]
    have := h n
    simp only [look] at this
    rw [this]
    split
    · rfl
    · split
      · rfl
      · exact ih _ _

theorem populate_congr {m m' : List (JointData R)} (h : ∀ n, look m n = look m' n)
    (names : List String) : populate m names = populate m' names := by
  have h5 := h (names.getD 5 "")
  simp only [look] at h5
  simp only [populate, populateGo_congr h, h5]

def NamesDistinct (js : List (JointData R)) : Prop := (js.map (·.name)).Nodup

theorem find?_first {α} {r : α → α → Prop} {p : α → Bool} {l : List α} (hp : l.Pairwise r)
    {j : α} (hj : j ∈ l) (hpj : p j = true) : ∃ e, l.find? p = some e ∧ (e = j ∨ r e j) := by
  obtain ⟨e, he⟩ := Option.isSome_iff_exists.1 (List.find?_isSome.2 ⟨j, hj, hpj⟩)
  refine ⟨e, he, ?_⟩
  obtain ⟨-, as, bs, rfl, has⟩ := List.find?_eq_some_iff_append.1 he
  rcases List.mem_append.1 hj with h | h
  · have := has j h
    rw [hpj] at this
    cases this
  · rcases List.mem_cons.1 h with rfl | h
    · exact .inl rfl
    · exact .inr ((List.pairwise_cons.1 (List.pairwise_append.1 hp).2.1).1 j h)

theorem look_eq_some_iff {js : List (JointData R)} (hd : NamesDistinct js) (n : String)
    (a : JointData R) : look js n = some a ↔ a ∈ js ∧ a.name = n := by
  refine ⟨fun h => ⟨List.mem_of_find?_eq_some h, by simpa using List.find?_some h⟩,
    fun ⟨hm, hn⟩ => ?_⟩
  obtain ⟨e, he, rfl | h⟩ := find?_first (p := fun j => j.name == n) (List.pairwise_map.1 hd) hm
    (by simpa using hn)
  · exact he
  · exact absurd ((by simpa using List.find?_some he : e.name = n).trans hn.symm) h

theorem NamesDistinct.perm {js js' : List (JointData R)} (hp : js'.Perm js)
    (hd : NamesDistinct js) : NamesDistinct js' :=
  ((hp.map (fun j : JointData R => j.name)).nodup_iff).2 hd

theorem look_perm {js js' : List (JointData R)} (hp : js'.Perm js) (hd : NamesDistinct js)
    (n : String) : look js' n = look js n := by
  apply Option.ext
  intro a
  rw [look_eq_some_iff hd, look_eq_some_iff (hd.perm hp), hp.mem_iff]

theorem NamesDistinct.pairwise_compat {js : List (JointData R)} (hd : NamesDistinct js) :
    js.Pairwise Compat := by
  unfold NamesDistinct List.Nodup at hd
  rw [List.pairwise_map] at hd
  exact hd.imp (fun h hn => absurd hn h)

theorem convertToMap_absorb {acc js : List (JointData R)}
    (h : ∀ j ∈ js, ∃ e, look acc j.name = some e ∧ e.eqv j = true) :
    convertToMap acc js = some acc := by
  fun_induction convertToMap acc js with
  | case1 => rfl
  | case2 acc j rest e he heq ih => exact ih fun j' hj' => h j' (List.mem_cons_of_mem _ hj')
  | case3 acc j rest e he hne =>
    obtain ⟨e', he', hej⟩ := h j (List.mem_cons_self ..)
    cases he.symm.trans he'
    exact absurd hej hne
  | case4 acc j rest he ih =>
    obtain ⟨e', he', -⟩ := h j (List.mem_cons_self ..)
    cases he.symm.trans he'

theorem convertToMap_second_copy {js : List (JointData R)} (hp : js.Pairwise Compat)
    (hr : ∀ j ∈ js, j.eqv j = true) :
    convertToMap [] (js ++ js) = convertToMap [] js := by
  obtain ⟨m, hm⟩ := convertToMap_isSome_nil hp
  rw [convertToMap_append, hm]
  refine convertToMap_absorb fun j hj => ?_
  obtain ⟨e, he, h⟩ := find?_first (p := fun e => e.name == j.name) hp hj (beq_self_eq_true _)
  refine ⟨e, (convertToMap_look hm _).trans he, ?_⟩
  rcases h with rfl | hc
  · exact hr _ hj
  · exact hc (by simpa using List.find?_some he)

theorem convertToMap_conflict {l1 l2 l3 : List (JointData R)} {a b : JointData R}
    (hfirst : ∀ e ∈ l1, e.name ≠ a.name) (hn : a.name = b.name) (hne : a.eqv b = false) :
    convertToMap [] (l1 ++ a :: l2 ++ b :: l3) = none := by
  rw [convertToMap_append]
  cases hm : convertToMap [] (l1 ++ a :: l2) with
  | none => rfl
  | some m =>
    have : l1.find? (fun j => j.name == b.name) = none :=
      List.find?_eq_none.2 fun e he => by simpa [← hn] using hfirst e he
    have hl : look m b.name = some a := by
      rw [convertToMap_look hm, look, List.find?_append, this, List.find?_cons, hn, beq_self_eq_true]
      rfl
    simp only [look] at hl
    simp [convertToMap, hl, hne]

theorem populateGo_missing {m : List (JointData R)} {n : String} (hmiss : look m n = none)
    (k : Nat) (names : List String) (hn : n ∈ names) (u : UParams R) :
    populateGo m k names u = none := by
  fun_induction populateGo m k names u with
  | case1 => cases hn
  | case2 | case3 => rfl
  | case4 k a rest u j ha u1 u' hs ih =>
    rcases List.mem_cons.1 hn with rfl | hm
    · cases hmiss.symm.trans ha
    · exact ih hm

theorem populate_missing {m : List (JointData R)} {names : List String} {n : String}
    (hn : n ∈ names.take 6) (hmiss : look m n = none) : populate m names = none := by
  simp only [populate, populateGo_missing hmiss 0 _ hn]

/-- the 6-DOF clause of `populate`: the sixth name has an entry -/
theorem populate_six {m : List (JointData R)} {names : List String} {j : JointData R}
    (h : look m (names.getD 5 "") = some j) :
    populate m names = (populateGo m 0 (names.take 6) UParams.zero).map ({ · with dof := 6 }) := by
  simp only [look] at h
  simp only [populate, h, Option.isSome_some, if_true]
  cases populateGo m 0 (names.take 6) UParams.zero <;> rfl

/-- `fromUrdf` after the joints have been collected -/
def fromJoints (js : List (JointData R)) (names : List String) : Except UrdfErr (UParams R) :=
  match convertToMap [] js with
  | none => .error .xml
  | some m =>
    match populate m names with
    | none => .error .populate
    | some u => .ok u

theorem fromUrdf_eq_fromJoints {r : Xml R} {names : Option (List String)} {js : List (JointData R)}
    (h : collectJoints names.isSome r = some js) :
    fromUrdf (some r) names = fromJoints js (names.getD defaultNames) := by
  simp only [fromUrdf, h, fromJoints]
  rfl

theorem fromUrdf_collect_none {r : Xml R} {names : Option (List String)}
    (h : collectJoints names.isSome r = none) : fromUrdf (some r) names = .error .xml := by
  simp only [fromUrdf, h]

/-- the map can be bypassed -/
theorem fromJoints_eq_populate {js m : List (JointData R)} (h : convertToMap [] js = some m)
    (names : List String) :
    fromJoints js names =
      match populate js names with
      | none => .error .populate
      | some u => .ok u := by
  simp only [fromJoints, h, populate_congr (convertToMap_look h)]

theorem fromJoints_congr {js js' : List (JointData R)} {m m'}
    (h : convertToMap [] js = some m) (h' : convertToMap [] js' = some m')
    (hl : ∀ n, look js n = look js' n) (names : List String) :
    fromJoints js names = fromJoints js' names := by
  rw [fromJoints_eq_populate h, fromJoints_eq_populate h', populate_congr hl]

theorem fromJoints_missing {js m : List (JointData R)} {names : List String} {n : String}
    (hm : convertToMap [] js = some m) (hn : n ∈ names.take 6) (hmiss : ∀ j ∈ js, j.name ≠ n) :
    fromJoints js names = .error .populate := by
  have : look js n = none := List.find?_eq_none.2 fun j hj => by simpa using hmiss j hj
  rw [fromJoints_eq_populate hm, populate_missing hn this]

/-- what one element contributes by itself -/
def hereOf (b : Bool) (c : Xml R) : Option (List (JointData R)) :=
  if c.name == "joint" then (jointOf b c).map (fun j => [j]) else some []

theorem collectList_cons (b : Bool) (c : Xml R) (rest : List (Xml R)) :
    collectList b (c :: rest) =
      (hereOf b c).bind fun h => (collectJoints b c).bind fun inner =>
        (collectList b rest).bind fun tl => some (h ++ inner ++ tl) := by
  rw [collectList.eq_2]
  unfold hereOf
  cases (if (c.name == "joint") = true then Option.map (fun j => [j]) (jointOf b c) else some []) with
  | none => rfl
  | some h =>
    cases collectJoints b c with
    | none => rfl
    | some inner =>
      cases collectList b rest with
      | none => rfl
      | some tl => rfl

theorem hereOf_nonjoint (b : Bool) {c : Xml R} (h : c.name ≠ "joint") : hereOf b c = some [] := by
  simp [hereOf, h]

theorem collectList_append (b : Bool) (l1 l2 : List (Xml R)) :
    collectList b (l1 ++ l2) =
      (collectList b l1).bind fun a => (collectList b l2).bind fun c => some (a ++ c) := by
  induction l1 with
  | nil => simp [collectList]
  | cons c rest ih =>
    rw [List.cons_append, collectList_cons, collectList_cons, ih]
    simp only [Option.bind_assoc, Option.bind_some, List.append_assoc]

mutual
/-- no `<joint>` element at or below this element -/
def noJoint : Xml R → Bool
  | .elem n _ kids => n != "joint" && noJointL kids
def noJointL : List (Xml R) → Bool
  | [] => true
  | c :: rest => noJoint c && noJointL rest
end

mutual
theorem collectJoints_noJoint (b : Bool) : ∀ e : Xml R, noJoint e = true → collectJoints b e = some []
  | .elem n attrs kids, h => by
    rw [collectJoints.eq_1]
    simp only [noJoint, Bool.and_eq_true] at h
    exact collectList_noJoint b kids h.2
theorem collectList_noJoint (b : Bool) : ∀ l : List (Xml R), noJointL l = true → collectList b l = some []
  | [], _ => by simp [collectList]
  | c :: rest, h => by
    simp only [noJointL, Bool.and_eq_true] at h
    have hc : c.name ≠ "joint" := by
      cases c
      simp only [noJoint, Bool.and_eq_true, bne_iff_ne] at h
      exact h.1.1
    rw [collectList_cons, collectJoints_noJoint b c h.1, collectList_noJoint b rest h.2,
      hereOf_nonjoint b hc]
    rfl
end

/-- `j` is a proper descendant of `e` -/
inductive Desc : Xml R → Xml R → Prop
  | child {n attrs kids c} : c ∈ kids → Desc (Xml.elem n attrs kids) c
  | deep {n attrs kids c j} : c ∈ kids → Desc c j → Desc (Xml.elem n attrs kids) j

theorem collectList_none_of_mem {b : Bool} {l : List (Xml R)} {c : Xml R} (hc : c ∈ l)
    (h : hereOf b c = none ∨ collectJoints b c = none) : collectList b l = none := by
  induction l with
  | nil => cases hc
  | cons a rest ih =>
    rw [collectList_cons]
    rcases List.mem_cons.1 hc with rfl | hm
    · rcases h with h | h
      · rw [h]; rfl
      · rw [h]; cases hereOf b c <;> rfl
    · rw [ih hm]
      cases hereOf b a <;> simp

theorem collectJoints_none_of_desc {b : Bool} {e j : Xml R} (hd : Desc e j)
    (hj : j.name = "joint") (hbad : jointOf b j = none) : collectJoints b e = none := by
  have hh : hereOf b j = none := by simp [hereOf, hj, hbad]
  induction hd with
  | child hc => rw [collectJoints.eq_1]; exact collectList_none_of_mem hc (Or.inl hh)
  | deep hc _ ih => rw [collectJoints.eq_1]; exact collectList_none_of_mem hc (Or.inr (ih hj hbad hh))

theorem allSome_eq_some {l : List (Option R)} {v : List R} : allSome l = some v ↔ l = v.map some := by
  induction l generalizing v with
  | nil => cases v <;> simp [allSome]
  | cons a rest ih =>
    cases a with
    | none => cases v <;> simp [allSome]
    | some x =>
      cases v with
      | nil => simp [allSome]
      | cons y v =>
        rw [allSome, Option.map_eq_some_iff, List.map_cons, List.cons.injEq, Option.some.injEq, ← ih]
        constructor
        · rintro ⟨w, hw, h⟩
          cases h
          exact ⟨rfl, hw⟩
        · rintro ⟨rfl, hw⟩
          exact ⟨v, hw, rfl⟩

theorem allSome_three (x y z : R) : allSome [some x, some y, some z] = some [x, y, z] :=
  allSome_eq_some.2 rfl

theorem getXyz_eq_some {o : Xml R} {x y z : R} :
    getXyz o = some (x, y, z) ↔
      ∃ a, o.attr "xyz" = some a ∧ a.tokens = [some x, some y, some z] := by
  unfold getXyz
  cases o.attr "xyz" with
  | none => simp
  | some a =>
    simp only [Option.some.injEq, exists_eq_left']
    refine ⟨fun h => ?_, fun ht => by rw [ht, allSome_three]⟩
    split at h
    next heq =>
      cases h
      exact allSome_eq_some.1 heq
    next => cases h

theorem getXyz_none {o : Xml R}
    (hbad : o.attr "xyz" = none ∨
      ∃ a, o.attr "xyz" = some a ∧ (none ∈ a.tokens ∨ a.tokens.length ≠ 3)) :
    getXyz o = none := by
  cases h : getXyz o with
  | none => rfl
  | some r =>
    obtain ⟨a, ha, ht⟩ := getXyz_eq_some.1 h
    simp [ha, ht] at hbad

theorem jointOf_none_of_origin {b : Bool} {j o : Xml R} (ho : j.child "origin" = some o)
    (hbad : getXyz o = none) : jointOf b j = none := by
  unfold jointOf
  simp only [ho, hbad]

theorem jointOf_some {b : Bool} {j : Xml R} {d : JointData R} (h : jointOf b j = some d) :
    ∃ x y z s,
      (match j.child "origin" with | none => some (0, 0, 0) | some o => getXyz o) = some (x, y, z) ∧
      (match j.child "axis" with | none => some 1 | some a => getAxisSign a) = some s ∧
      d = ⟨(if b then (match j.attr "name" with | some a => a.value | none => "Unnamed")
            else preprocessJointName (match j.attr "name" with | some a => a.value | none => "Unnamed")),
          x, y, z, s,
          (match j.child "limit" with
            | none => ((0 : R), (0 : R))
            | some l => match getLimits l with
              | some p => p
              | none => (0, 0)).1,
          (match j.child "limit" with
            | none => ((0 : R), (0 : R))
            | some l => match getLimits l with
              | some p => p
              | none => (0, 0)).2⟩ := by
  rw [jointOf] at h
  split at h
  next x y z s hv hs => exact ⟨x, y, z, s, hv, hs, (Option.some.inj h).symm⟩
  next => cases h

theorem jointOf_origin {b : Bool} {j o : Xml R} {d : JointData R} {x y z : R}
    (h : jointOf b j = some d) (ho : j.child "origin" = some o) (hx : getXyz o = some (x, y, z)) :
    d.x = x ∧ d.y = y ∧ d.z = z := by
  obtain ⟨x', y', z', _, hv, -, rfl⟩ := jointOf_some h
  rw [ho] at hv
  cases hv.symm.trans hx
  exact ⟨rfl, rfl, rfl⟩

theorem jointOf_name_explicit {j : Xml R} {a : Attr R} {d : JointData R}
    (h : jointOf true j = some d) (hn : j.attr "name" = some a) : d.name = a.value := by
  obtain ⟨_, _, _, _, -, -, rfl⟩ := jointOf_some h
  simp only [hn, if_true]

theorem jointOf_name_simplified {j : Xml R} {a : Attr R} {d : JointData R}
    (h : jointOf false j = some d) (hn : j.attr "name" = some a) :
    d.name = preprocessJointName a.value := by
  obtain ⟨_, _, _, _, -, -, rfl⟩ := jointOf_some h
  simp only [hn, Bool.false_eq_true, if_false]

theorem getAxisSign_single {e : Xml R} {a : Attr R} {vals : List R} {v : R}
    (ha : e.attr "xyz" = some a) (hv : allSome a.tokens = some vals)
    (hnz : vals.filter (fun v => !(feq v 0)) = [v]) :
    getAxisSign e = some (if v < 0 then -1 else 1) := by
  unfold getAxisSign
  simp only [ha, hv, hnz, List.map_cons, List.map_nil]

theorem getAxisSign_other {e : Xml R} {a : Attr R} {vals : List R}
    (ha : e.attr "xyz" = some a) (hv : allSome a.tokens = some vals)
    (hnz : (vals.filter (fun v => !(feq v 0))).length ≠ 1) :
    getAxisSign e = some 0 := by
  unfold getAxisSign
  simp only [ha, hv]
  split
  next s hs =>
    -- the mapped list has one entry, so the filtered one has
    exact absurd (by rw [← List.length_map, hs]; rfl) hnz
  next => rfl

/-- the only facts about the number type the round trip needs (they hold over `ℝ`) -/
structure ZeroLaws (R : Type) [OpwNum R] : Prop where
  feq_zero : ∀ x : R, feq x 0 = true ↔ x = 0
  neg_neg : ∀ x : R, -(-x) = x
  neg_zero : -(0 : R) = 0

namespace ZeroLaws
variable (L : ZeroLaws R)
include L

theorem feq00 : feq (0 : R) 0 = true := (L.feq_zero 0).2 rfl
theorem feq_ne {x : R} (h : x ≠ 0) : feq x 0 = false := by
  cases hf : feq x 0 with
  | false => rfl
  | true => exact absurd ((L.feq_zero x).1 hf) h
theorem neg_ne {x : R} (h : x ≠ 0) : -x ≠ 0 := by
  intro h0
  apply h
  rw [← L.neg_neg x, h0, L.neg_zero]

theorem nz3_x (v : R) : nonZero3 v 0 0 = some v := by
  by_cases h : v = 0
  · subst h; simp [nonZero3, L.feq00]
  · simp [nonZero3, L.feq00, L.feq_ne h]
theorem nz3_y (v : R) : nonZero3 0 v 0 = some v := by
  by_cases h : v = 0
  · subst h; simp [nonZero3, L.feq00]
  · simp [nonZero3, L.feq00, L.feq_ne h]
theorem nz3_z (v : R) : nonZero3 0 0 v = some v := by
  by_cases h : v = 0
  · subst h; simp [nonZero3, L.feq00]
  · simp [nonZero3, L.feq00, L.feq_ne h]
theorem nz3_xy {x y : R} (z : R) (hx : x ≠ 0) (hy : y ≠ 0) : nonZero3 x y z = none := by
  by_cases h : z = 0
  · subst h; simp [nonZero3, L.feq00, L.feq_ne hx, L.feq_ne hy]
  · simp [nonZero3, L.feq_ne h, L.feq_ne hx, L.feq_ne hy]
theorem nz3_xz {x z : R} (y : R) (hx : x ≠ 0) (hz : z ≠ 0) : nonZero3 x y z = none := by
  by_cases h : y = 0
  · subst h; simp [nonZero3, L.feq00, L.feq_ne hx, L.feq_ne hz]
  · simp [nonZero3, L.feq_ne h, L.feq_ne hx, L.feq_ne hz]
theorem nz3_yz {y z : R} (x : R) (hy : y ≠ 0) (hz : z ≠ 0) : nonZero3 x y z = none := by
  by_cases h : x = 0
  · subst h; simp [nonZero3, L.feq00, L.feq_ne hy, L.feq_ne hz]
  · simp [nonZero3, L.feq_ne h, L.feq_ne hy, L.feq_ne hz]
theorem nz2_l (v : R) : nonZero2 v 0 = some v := by
  by_cases h : v = 0
  · subst h; simp [nonZero2, L.feq00]
  · simp [nonZero2, L.feq00, L.feq_ne h]
theorem nz2_r (v : R) : nonZero2 0 v = some v := by
  by_cases h : v = 0
  · subst h; simp [nonZero2, L.feq00]
  · simp [nonZero2, L.feq00, L.feq_ne h]

end ZeroLaws

section steps
variable {j : JointData R} {u : UParams R}

theorem step0 {v : R} (h : nonZero3 j.x j.y j.z = some v) :
    populateStep 0 j u = some { u with c1 := v } := by
  simp [populateStep, h]
theorem step1 {v : R} (h : nonZero3 j.x j.y j.z = some v) :
    populateStep 1 j u = some { u with a1 := v } := by
  simp [populateStep, h]
theorem step2_single {v : R} (h : nonZero3 j.x j.y j.z = some v) :
    populateStep 2 j u = some { u with c2 := v, b := 0 } := by
  simp [populateStep, h]
theorem step2_multi {v : R} (h : nonZero3 j.x j.y j.z = none) (h2 : nonZero2 j.x j.z = some v) :
    populateStep 2 j u = some { u with c2 := v, b := j.y } := by
  simp [populateStep, h, h2]
theorem step3_single {v : R} (h : nonZero3 j.x j.y j.z = some v) :
    populateStep 3 j u = some { u with a2 := -v } := by
  simp [populateStep, h]
theorem step3_multi {v : R} (h : nonZero3 j.x j.y j.z = none) (hc : feq u.c3 0 = true)
    (h2 : nonZero2 j.x j.y = some v) :
    populateStep 3 j u = some { u with a2 := -j.z, c3 := v } := by
  simp [populateStep, h, h2, hc]
theorem step3_multi_c3_set (h : nonZero3 j.x j.y j.z = none) (hc : feq u.c3 0 = false) :
    populateStep 3 j u = none := by
  simp [populateStep, h, hc]
theorem step4_zero {v : R} (h : nonZero3 j.x j.y j.z = some v) (hv : feq v 0 = true) :
    populateStep 4 j u = some u := by
  simp [populateStep, h, hv]
theorem step4_set {v : R} (h : nonZero3 j.x j.y j.z = some v) (hv : feq v 0 = false)
    (hc : feq u.c3 0 = true) : populateStep 4 j u = some { u with c3 := v } := by
  simp [populateStep, h, hv, hc]
theorem step4_twice {v : R} (h : nonZero3 j.x j.y j.z = some v) (hv : feq v 0 = false)
    (hc : feq u.c3 0 = false) : populateStep 4 j u = none := by
  simp [populateStep, h, hv, hc]
theorem step4_multi (h : nonZero3 j.x j.y j.z = none) : populateStep 4 j u = none := by
  simp [populateStep, h]
theorem step5 {v : R} (h : nonZero3 j.x j.y j.z = some v) :
    populateStep 5 j u = some { u with c4 := v } := by
  simp [populateStep, h]
theorem step_multi_error {k : Nat} (hk : k = 0 ∨ k = 1 ∨ k = 5) (h : nonZero3 j.x j.y j.z = none) :
    populateStep k j u = none := by
  unfold populateStep
  rw [h]
  rcases hk with rfl | rfl | rfl <;> rfl

end steps

theorem populateGo_cons {m : List (JointData R)} {n : String} {j : JointData R}
    (h : look m n = some j) (k : Nat) (rest : List String) (u : UParams R) :
    populateGo m k (n :: rest) u =
      (populateStep k j { u with signs := u.signs ++ [wrapI8 j.sign], from_ := u.from_ ++ [j.from_],
                                 to := u.to ++ [j.to] }).bind (populateGo m (k + 1) rest) := by
  simp only [look] at h
  simp only [populateGo, h]
  cases populateStep k j _ <;> rfl

theorem length_six {α} {l : List α} (h : l.length = 6) : ∃ a b c d e f, l = [a, b, c, d, e, f] := by
  match l, h with
  | [a, b, c, d, e, f], _ => exact ⟨a, b, c, d, e, f, rfl⟩

end Opw.UrdfL
