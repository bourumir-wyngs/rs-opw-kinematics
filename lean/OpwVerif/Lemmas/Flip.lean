/-
  The wrist flip `(θ4+π, −θ5, θ6−π)` in θ-space and the sign/offset map between joint space and θ-space,
  over ℝ: the flip and whole turns of any joint keep the forward pose, `thetaOf` and `jointsOf` invert
  each other for signs `±1`, the normalisation of `inverse_intern` moves joints by whole turns.
  The file declares into `Opw.Wrist` and `Opw.C02`, the names under which `J6TurnEq`, `flip`, `SignsOk`
  and their lemmas are cited elsewhere.
-/
import OpwVerif.Lemmas.Candidates
import OpwVerif.Lemmas.NormPi
import OpwVerif.Lemmas.Fk
import OpwVerif.Lemmas.Sound

namespace Opw.Wrist

/-- componentwise `TurnEq` (`Lemmas/Angle.lean`) -/
def J6TurnEq (a b : J6 ℝ) : Prop :=
  TurnEq a.j1 b.j1 ∧ TurnEq a.j2 b.j2 ∧ TurnEq a.j3 b.j3 ∧
  TurnEq a.j4 b.j4 ∧ TurnEq a.j5 b.j5 ∧ TurnEq a.j6 b.j6

theorem J6TurnEq.refl (a : J6 ℝ) : J6TurnEq a a :=
  ⟨.refl _, .refl _, .refl _, .refl _, .refl _, .refl _⟩
theorem J6TurnEq.symm {a b : J6 ℝ} (h : J6TurnEq a b) : J6TurnEq b a :=
  ⟨h.1.symm, h.2.1.symm, h.2.2.1.symm, h.2.2.2.1.symm, h.2.2.2.2.1.symm, h.2.2.2.2.2.symm⟩
theorem J6TurnEq.trans {a b c : J6 ℝ} (h : J6TurnEq a b) (g : J6TurnEq b c) : J6TurnEq a c :=
  ⟨h.1.trans g.1, h.2.1.trans g.2.1, h.2.2.1.trans g.2.2.1, h.2.2.2.1.trans g.2.2.2.1,
   h.2.2.2.2.1.trans g.2.2.2.2.1, h.2.2.2.2.2.trans g.2.2.2.2.2⟩

/-- also when the fuel runs out -/
theorem normPi_turn (x : ℝ) : ∃ k : ℤ, normPi x = x + 2 * Real.pi * k :=
  Nearest.normPiF_turn normFuel x

def IsSign (s : ℝ) : Prop := s = 1 ∨ s = -1

theorem IsSign.mul_self {s : ℝ} (h : IsSign s) : s * s = 1 := by
  rcases h with rfl | rfl <;> norm_num
theorem IsSign.abs {s : ℝ} (h : IsSign s) : |s| = 1 := by
  rcases h with rfl | rfl <;> norm_num

end Opw.Wrist

namespace Opw.C02
open Opw Opw.Wrist

/-- the wrist flip in θ-space -/
noncomputable def flip (t : J6 ℝ) : J6 ℝ := ⟨t.j1, t.j2, t.j3, t.j4 + Real.pi, -t.j5, t.j6 - Real.pi⟩

/-- all six sign corrections are `±1`: each conjunct is `IsSign` of that sign, written out -/
def SignsOk (p : Params ℝ) : Prop :=
  (p.signs.j1 = 1 ∨ p.signs.j1 = -1) ∧ (p.signs.j2 = 1 ∨ p.signs.j2 = -1) ∧
  (p.signs.j3 = 1 ∨ p.signs.j3 = -1) ∧ (p.signs.j4 = 1 ∨ p.signs.j4 = -1) ∧
  (p.signs.j5 = 1 ∨ p.signs.j5 = -1) ∧ (p.signs.j6 = 1 ∨ p.signs.j6 = -1)

theorem rce_flip (θ4 θ5 θ6 : ℝ) :
    rce (Real.sin (θ4 + Real.pi)) (Real.cos (θ4 + Real.pi)) (Real.sin (-θ5)) (Real.cos (-θ5))
        (Real.sin (θ6 - Real.pi)) (Real.cos (θ6 - Real.pi)) =
      rce (Real.sin θ4) (Real.cos θ4) (Real.sin θ5) (Real.cos θ5) (Real.sin θ6) (Real.cos θ6) := by
  rw [Real.sin_add_pi, Real.cos_add_pi, Real.sin_neg, Real.cos_neg, Real.sin_sub_pi, Real.cos_sub_pi]
  simp only [rce, neg_mul, mul_neg, neg_neg]

theorem forwardTheta_flip' (p : Params ℝ) (t : J6 ℝ) : forwardTheta p (flip t) = forwardTheta p t := by
  simp only [forwardTheta, flip, nsin_real, ncos_real, rce_flip]

theorem forwardTheta_congr (p : Params ℝ) {a b : J6 ℝ} (h : J6TurnEq a b) :
    forwardTheta p a = forwardTheta p b := by
  obtain ⟨h1, h2, h3, h4, h5, h6⟩ := h
  have h23 := (h2.add h3).add_const (natan2 p.a2 p.c3)
  simp only [forwardTheta, nsin_real, ncos_real, h1.sin_eq, h1.cos_eq, h2.sin_eq, h2.cos_eq,
    h3.sin_eq, h3.cos_eq, h4.sin_eq, h4.cos_eq, h5.sin_eq, h5.cos_eq, h6.sin_eq, h6.cos_eq,
    h23.sin_eq, h23.cos_eq]

theorem theta_joint {s : ℝ} (h : IsSign s) (t o : ℝ) : (t + o) * s * s - o = t := by
  rw [mul_assoc, h.mul_self, mul_one, add_sub_cancel_right]

theorem joint_theta {s : ℝ} (h : IsSign s) (j o : ℝ) : (j * s - o + o) * s = j := by
  rw [sub_add_cancel, mul_assoc, h.mul_self, mul_one]

theorem turnEq_of_theta {a b s o : ℝ} (hs : s = 1 ∨ s = -1) (h : TurnEq (a * s - o) (b * s - o)) :
    TurnEq a b := by
  have h' := (h.add_const o).mul_sign hs
  rwa [joint_theta hs, joint_theta hs] at h'

theorem thetaOf_jointsOf (p : Params ℝ) (hs : SignsOk p) (t : J6 ℝ) : thetaOf p (jointsOf p t) = t := by
  obtain ⟨s1, s2, s3, s4, s5, s6⟩ := hs
  exact J6.ext' (theta_joint s1 _ _) (theta_joint s2 _ _) (theta_joint s3 _ _) (theta_joint s4 _ _)
    (theta_joint s5 _ _) (theta_joint s6 _ _)

theorem jointsOf_thetaOf (p : Params ℝ) (hs : SignsOk p) (j : J6 ℝ) : jointsOf p (thetaOf p j) = j := by
  obtain ⟨s1, s2, s3, s4, s5, s6⟩ := hs
  exact J6.ext' (joint_theta s1 _ _) (joint_theta s2 _ _) (joint_theta s3 _ _) (joint_theta s4 _ _)
    (joint_theta s5 _ _) (joint_theta s6 _ _)

theorem forward_congr (p : Params ℝ) {a b : J6 ℝ} (h : J6TurnEq (thetaOf p a) (thetaOf p b)) :
    forward p a = forward p b := by
  rw [forward_eq, forward_eq, forwardTheta_congr p h]

theorem flip_turnEq {a b : J6 ℝ} (h : J6TurnEq a b) : J6TurnEq (flip a) (flip b) :=
  ⟨h.1, h.2.1, h.2.2.1, h.2.2.2.1.add_const _, h.2.2.2.2.1.neg, h.2.2.2.2.2.sub_const _⟩

theorem flip_flip_turnEq (a : J6 ℝ) : J6TurnEq (flip (flip a)) a :=
  ⟨.refl _, .refl _, .refl _,
   ⟨1, by rw [Int.cast_one, mul_one, two_mul]; exact add_assoc _ _ _⟩,
   .of_eq (neg_neg _),
   ⟨-1, by rw [Int.cast_neg, Int.cast_one, mul_neg, mul_one, two_mul, ← sub_eq_add_neg]; exact sub_sub _ _ _⟩⟩

/-- the twin as the model forms it for any number type (`flipG`, with the generic `pi`) is `flip` over ℝ -/
theorem _root_.Opw.IkComplete.flipG_eq (t : J6 ℝ) : IkComplete.flipG t = flip t := rfl

theorem candidates_twin (p : Params ℝ) (pose : Iso ℝ) (t : J6 ℝ) (ht : t ∈ thetaCandidates p pose) :
    ∃ t' ∈ thetaCandidates p pose, J6TurnEq t' (flip t) := by
  simp only [IkComplete.thetaCandidates_eq_armRows, List.mem_append, List.mem_map,
    IkComplete.flipG_eq] at ht ⊢
  rcases ht with h | ⟨c, hc, rfl⟩
  · exact ⟨flip t, .inr ⟨t, h, rfl⟩, .refl _⟩
  · exact ⟨c, .inl hc, (flip_flip_turnEq c).symm⟩

theorem thetaOf_turnEq (p : Params ℝ) (hs : SignsOk p) {a b : J6 ℝ} (h : J6TurnEq a b) :
    J6TurnEq (thetaOf p a) (thetaOf p b) := by
  obtain ⟨s1, s2, s3, s4, s5, s6⟩ := hs
  obtain ⟨h1, h2, h3, h4, h5, h6⟩ := h
  exact ⟨(h1.mul_sign s1).sub_const _, (h2.mul_sign s2).sub_const _, (h3.mul_sign s3).sub_const _,
    (h4.mul_sign s4).sub_const _, (h5.mul_sign s5).sub_const _, (h6.mul_sign s6).sub_const _⟩

theorem map_normPi_turnEq (j : J6 ℝ) : J6TurnEq (j.map normPi) j :=
  ⟨normPi_turn _, normPi_turn _, normPi_turn _, normPi_turn _, normPi_turn _, normPi_turn _⟩

theorem thetaOf_finish_turnEq (p : Params ℝ) (hs : SignsOk p) (t : J6 ℝ) :
    J6TurnEq (thetaOf p ((jointsOf p t).map normPi)) t := by
  have h := thetaOf_turnEq p hs (map_normPi_turnEq (jointsOf p t))
  rw [thetaOf_jointsOf p hs] at h
  exact h

theorem forward_map_normPi (p : Params ℝ) (hs : SignsOk p) (j : J6 ℝ) :
    forward p (j.map normPi) = forward p j :=
  forward_congr p (thetaOf_turnEq p hs (map_normPi_turnEq j))

theorem allFinite_real (j : J6 ℝ) : j.allFinite = true := by
  simp only [J6.allFinite, fin_real, Bool.and_self]

end Opw.C02
