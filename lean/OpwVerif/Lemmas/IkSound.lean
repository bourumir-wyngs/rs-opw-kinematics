/-
  Soundness of the closed-form inverse kinematics over ℝ (C02d): for an arbitrary pose with a unit
  quaternion, every raw candidate whose branch conditions hold reproduces the pose under the forward
  model.  The arm: the two-link triangle `planar_sound` in the arm plane, then the shoulder, put the
  wrist centre of the forward model at the wrist centre of the pose (`arm_front`, `arm_back`).  The wrist:
  the solver's angles are the ZYZ reading of `R0cᵀ R`, which decomposes a rotation matrix (`rce_zyzAngles`).
-/
import OpwVerif.Lemmas.IkComplete
import OpwVerif.Lemmas.FiveDof
import OpwVerif.Lemmas.Wrist

namespace Opw.IkSound
open Opw Opw.Wrist Opw.C02 Opw.IkComplete

theorem filterMap_eq_map_of_forall {α β : Type} (f : α → Option β) (g : α → β) (l : List α)
    (h : ∀ a ∈ l, f a = some (g a)) : l.filterMap f = l.map g :=
  (List.filterMap_congr h).trans (congrFun List.filterMap_eq_map' l)

/-- front shoulder reaches the wrist centre `c`: the square root of the shoulder is real and the
argument of the elbow `acos` (`tmp11`) lies in `[−1, 1]` -/
def FrontReach (p : Params ℝ) (c : V3 ℝ) : Prop :=
  0 ≤ (c.x * c.x + c.y * c.y) - p.b * p.b ∧
    -1 ≤ (s1sq p c - p.c2 * p.c2 - kappa2 p) / tmp9 p ∧
    (s1sq p c - p.c2 * p.c2 - kappa2 p) / tmp9 p ≤ 1

/-- the same for the back shoulder (`tmp12`) -/
def BackReach (p : Params ℝ) (c : V3 ℝ) : Prop :=
  0 ≤ (c.x * c.x + c.y * c.y) - p.b * p.b ∧
    -1 ≤ (s2sq p c - p.c2 * p.c2 - kappa2 p) / tmp9 p ∧
    (s2sq p c - p.c2 * p.c2 - kappa2 p) / tmp9 p ≤ 1

theorem arm_plane (p : Params ℝ) (hc : 0 < p.c2) (hk : 0 < kappa p) {s : ℝ} (t : ℝ)
    (hb1 : -1 ≤ (s - p.c2 * p.c2 - kappa2 p) / tmp9 p) (hb2 : (s - p.c2 * p.c2 - kappa2 p) / tmp9 p ≤ 1)
    {θ : J6 ℝ} (h : θ.j2 = -shoulderAcos p s + t ∧ θ.j3 = elbowAcos p s - psi3 p ∨
      θ.j2 = shoulderAcos p s + t ∧ θ.j3 = -elbowAcos p s - psi3 p) :
    cz1 p θ = Real.sqrt s * Real.cos t ∧ armX p θ = Real.sqrt s * Real.sin t := by
  rw [elbow_arg_eq] at hb1 hb2
  exact planar_sound hc hk hb1 hb2 t (shoulderAcos_eq p s) (elbowAcos_eq p s)
    (h.imp (fun h => ⟨h.1.trans (neg_add_eq_sub _ _), by rw [h.1, h.2]; ring⟩)
      (fun h => ⟨h.1.trans (add_comm _ _), by rw [h.1, h.2]; ring⟩))

/-- from the arm plane to base coordinates: `(cx1 + i b) e^{iθ1} = x + i y` when `cx1 + i b` has the
modulus of `x + i y` and argument `γ`, and `θ1 = atan2(y, x) − γ` -/
theorem wcθ_of_arm (p : Params ℝ) (c : V3 ℝ) {θ : J6 ℝ} {γ : ℝ} (hz : cz1 p θ = c.z - p.c1)
    (hx : cx1 p θ = Real.sqrt (c.x * c.x + c.y * c.y) * Real.cos γ)
    (hb : p.b = Real.sqrt (c.x * c.x + c.y * c.y) * Real.sin γ)
    (h1 : θ.j1 = Complex.arg ⟨c.x, c.y⟩ - γ) : wcθ p θ = c := by
  obtain ⟨ex, ey⟩ := rot_polar hx hb θ.j1
  have e : γ + θ.j1 = Complex.arg ⟨c.x, c.y⟩ := by rw [h1]; exact add_sub_cancel _ _
  rw [e, ← re_eq_norm_cos] at ex
  rw [e, ← im_eq_norm_sin] at ey
  exact V3.ext' ex ey (eq_sub_iff_add_eq.mp hz)

theorem shoulder_polar (p : Params ℝ) (c : V3 ℝ) (h : 0 ≤ c.x * c.x + c.y * c.y - p.b * p.b) :
    nx1 p c + p.a1 =
        Real.sqrt (c.x * c.x + c.y * c.y) * Real.cos (Complex.arg ⟨nx1 p c + p.a1, p.b⟩) ∧
      p.b = Real.sqrt (c.x * c.x + c.y * c.y) * Real.sin (Complex.arg ⟨nx1 p c + p.a1, p.b⟩) := by
  have e : (nx1 p c + p.a1) * (nx1 p c + p.a1) + p.b * p.b = c.x * c.x + c.y * c.y := by
    rw [show nx1 p c + p.a1 = Real.sqrt (c.x * c.x + c.y * c.y - p.b * p.b) from sub_add_cancel _ _,
      Real.mul_self_sqrt h]
    exact sub_add_cancel _ _
  have h1 := re_eq_norm_cos (nx1 p c + p.a1) p.b
  have h2 := im_eq_norm_sin (nx1 p c + p.a1) p.b
  rw [e] at h1 h2
  exact ⟨h1, h2⟩

theorem s1sq_polar (p : Params ℝ) (c : V3 ℝ) :
    Real.sqrt (s1sq p c) * Real.cos (tmp14 p c) = c.z - p.c1 ∧
      Real.sqrt (s1sq p c) * Real.sin (tmp14 p c) = nx1 p c := by
  rw [s1sq, add_comm (nx1 p c * nx1 p c)]
  exact ⟨(re_eq_norm_cos _ _).symm, (im_eq_norm_sin _ _).symm⟩

theorem s2sq_polar (p : Params ℝ) (c : V3 ℝ) :
    Real.sqrt (s2sq p c) * Real.cos (tmp16 p c) = c.z - p.c1 ∧
      Real.sqrt (s2sq p c) * Real.sin (tmp16 p c) = nx1 p c + 2 * p.a1 := by
  rw [s2sq, add_comm (_ * _)]
  exact ⟨(re_eq_norm_cos _ _).symm, (im_eq_norm_sin _ _).symm⟩

theorem arm_front (p : Params ℝ) (c : V3 ℝ) (hc : 0 < p.c2) (hk : 0 < kappa p) (h : FrontReach p c)
    {θ : J6 ℝ} (h1 : θ.j1 = th1i p c)
    (h23 : θ.j2 = th2i p c ∧ θ.j3 = th3i p c ∨ θ.j2 = th2ii p c ∧ θ.j3 = th3ii p c) :
    wcθ p θ = c := by
  obtain ⟨hz, hx⟩ := arm_plane p hc hk (tmp14 p c) h.2.1 h.2.2 h23
  obtain ⟨pc, ps⟩ := s1sq_polar p c
  obtain ⟨er, eb⟩ := shoulder_polar p c h.1
  exact wcθ_of_arm p c (hz.trans pc) (by unfold cx1; rw [hx, ps]; exact er) eb h1

/-- back shoulder: the arm points to `−(nx1 + 2 a1)`, seen from the other side -/
theorem arm_back (p : Params ℝ) (c : V3 ℝ) (hc : 0 < p.c2) (hk : 0 < kappa p) (h : BackReach p c)
    {θ : J6 ℝ} (h1 : θ.j1 = th1ii p c)
    (h23 : θ.j2 = th2iii p c ∧ θ.j3 = th3iii p c ∨ θ.j2 = th2iv p c ∧ θ.j3 = th3iv p c) :
    wcθ p θ = c := by
  -- `th2iii`, `th2iv` are `∓tmp15 − tmp16`: the direction handed to `arm_plane` is `−tmp16`
  have h23' := h23.imp (fun h => And.intro (h.1.trans (sub_eq_add_neg _ _)) h.2)
    (fun h => And.intro (h.1.trans (sub_eq_add_neg _ _)) h.2)
  obtain ⟨hz, hx⟩ := arm_plane p hc hk (-tmp16 p c) h.2.1 h.2.2 h23'
  obtain ⟨pc, ps⟩ := s2sq_polar p c
  obtain ⟨er, eb⟩ := shoulder_polar p c h.1
  rw [Real.cos_neg, pc] at hz
  rw [Real.sin_neg, mul_neg, ps] at hx
  refine wcθ_of_arm p c hz (γ := Real.pi - Complex.arg ⟨nx1 p c + p.a1, p.b⟩) ?_ ?_ ?_
  · rw [Real.cos_pi_sub, mul_neg, ← er]; unfold cx1; rw [hx]; ring
  · rw [Real.sin_pi_sub]; exact eb
  · rw [h1]; simp only [th1ii, natan2_real, pi_def_real]; ring

/-- the `(3,3)` entry of `R0cᵀ R` as the solver computes it (`cos θ5`) -/
noncomputable def mmOf (R : M3 ℝ) (t1 t23 : ℝ) : ℝ :=
  R.m02 * Real.sin t23 * Real.cos t1 + R.m12 * Real.sin t23 * Real.sin t1 + R.m22 * Real.cos t23

theorem mmOf_eq (R : M3 ℝ) (t1 t2 t3 : ℝ) : mmOf R t1 (t2 + t3) = (wristTarget R t1 t2 t3).m22 :=
  (wristTarget_entries R t1 t2 t3).1.symm

theorem IsRot_wristTarget {R : M3 ℝ} (hR : IsRot R) (t1 t2 t3 : ℝ) : IsRot (wristTarget R t1 t2 t3) :=
  (IsRot_r0c t1 t2 t3).transpose.mul hR

theorem r0c_mul_wristTarget (R : M3 ℝ) (t1 t2 t3 : ℝ) :
    (r0c (Real.sin t1) (Real.cos t1) (Real.sin t2) (Real.cos t2) (Real.sin t3) (Real.cos t3)).mul
      (wristTarget R t1 t2 t3) = R := by
  unfold wristTarget
  rw [← M3.mul_assoc, (IsRot_r0c t1 t2 t3).mt, M3.one_mul]

theorem unit_polar {m : ℝ} (hm : m * m ≤ 1) :
    m = Real.cos (Complex.arg ⟨m, Real.sqrt (1 - m * m)⟩) ∧
      Real.sqrt (1 - m * m) = Real.sin (Complex.arg ⟨m, Real.sqrt (1 - m * m)⟩) := by
  have c5 := re_eq_norm_cos m (Real.sqrt (1 - m * m))
  have s5 := im_eq_norm_sin m (Real.sqrt (1 - m * m))
  rw [Real.mul_self_sqrt (sub_nonneg.mpr hm), add_sub_cancel, Real.sqrt_one, one_mul] at c5 s5
  exact ⟨c5, s5⟩

theorem m22_sq_le_one {N : M3 ℝ} (hN : IsRot N) : N.m22 * N.m22 ≤ 1 :=
  (le_add_of_nonneg_left (add_nonneg (mul_self_nonneg N.m02) (mul_self_nonneg N.m12))).trans_eq
    hN.eqs.hc22

/-- ZYZ decomposition: the product of the three rotations by the angles read off the last column, the
`(3,3)` entry and the last row has that last column and last row, and so is `N` (`IsRot.ext_last`) -/
theorem rce_zyzAngles {N : M3 ℝ} (hN : IsRot N) (hm : N.m22 * N.m22 ≠ 1) :
    rce (Real.sin (zyzAngles N).1) (Real.cos (zyzAngles N).1) (Real.sin (zyzAngles N).2.1)
      (Real.cos (zyzAngles N).2.1) (Real.sin (zyzAngles N).2.2) (Real.cos (zyzAngles N).2.2) = N := by
  have e := hN.eqs
  obtain ⟨c5, s5⟩ := unit_polar (m22_sq_le_one hN)
  have c4 := re_eq_norm_cos N.m02 N.m12
  have s4 := im_eq_norm_sin N.m02 N.m12
  have c6 := re_eq_norm_cos (-N.m20) N.m21
  have s6 := im_eq_norm_sin (-N.m20) N.m21
  rw [eq_sub_of_add_eq e.hc22, s5] at c4 s4
  rw [neg_mul_neg, eq_sub_of_add_eq e.hr22, s5] at c6 s6
  refine IsRot.ext_last (IsRot_rce _ _ _) hN hm ?_ ?_ ?_ ?_ ?_
  · exact (mul_comm _ _).trans c4.symm
  · exact (mul_comm _ _).trans s4.symm
  · exact (neg_mul _ _).trans (neg_eq_iff_eq_neg.mpr c6.symm)
  · exact s6.symm
  · exact c5.symm

theorem roe_cand {R : M3 ℝ} (hR : IsRot R) (t1 t2 t3 : ℝ)
    (hm : mmOf R t1 (t2 + t3) * mmOf R t1 (t2 + t3) ≠ 1) : roe (cand R t1 t2 t3) = R := by
  rw [mmOf_eq] at hm
  simp only [roe, cand, nsin_real, ncos_real]
  rw [wristSol_eq, rce_zyzAngles (IsRot_wristTarget hR t1 t2 t3) hm]
  exact r0c_mul_wristTarget R t1 t2 t3

theorem cand_j5 (R : M3 ℝ) (t1 t2 t3 : ℝ) :
    (cand R t1 t2 t3).j5 =
      Complex.arg ⟨mmOf R t1 (t2 + t3),
        Real.sqrt (1 - mmOf R t1 (t2 + t3) * mmOf R t1 (t2 + t3))⟩ := by
  rw [mmOf_eq]; exact congrArg (fun w => w.2.1) (wristSol_eq R t1 t2 t3)

theorem mm_ne_of_sin_j5 (R : M3 ℝ) (t1 t2 t3 : ℝ) (h : Real.sin (cand R t1 t2 t3).j5 ≠ 0) :
    mmOf R t1 (t2 + t3) * mmOf R t1 (t2 + t3) ≠ 1 := by
  intro h1
  apply h
  rw [cand_j5, h1, sub_self, Real.sqrt_zero, Complex.sin_arg]
  simp

theorem sin_j5_of_mm_ne {R : M3 ℝ} (hR : IsRot R) (t1 t2 t3 : ℝ)
    (h : mmOf R t1 (t2 + t3) * mmOf R t1 (t2 + t3) ≠ 1) : Real.sin (cand R t1 t2 t3).j5 ≠ 0 := by
  have hle : mmOf R t1 (t2 + t3) * mmOf R t1 (t2 + t3) ≤ 1 := by
    rw [mmOf_eq]; exact m22_sq_le_one (IsRot_wristTarget hR t1 t2 t3)
  rw [cand_j5, ← (unit_polar hle).2]
  exact fun h0 => h (sub_eq_zero.mp (Real.sqrt_eq_zero (sub_nonneg.mpr hle) |>.mp h0)).symm

/-- with `sin θ1 = 0` and `R.m02 = 0` the `(3,3)` entry is `R.m22 cos θ23` -/
theorem mmOf_sq_ne_one {R : M3 ℝ} {t1 : ℝ} (t23 : ℝ) (h02 : R.m02 = 0) (h1 : Real.sin t1 = 0)
    (h22 : R.m22 * R.m22 < 1) : mmOf R t1 t23 * mmOf R t1 t23 ≠ 1 := by
  have e : mmOf R t1 t23 = R.m22 * Real.cos t23 := by
    simp only [mmOf, h02, h1, zero_mul, mul_zero, zero_add]
  rw [e, mul_mul_mul_comm, ← sq (Real.cos t23)]
  exact ((mul_le_of_le_one_right (mul_self_nonneg _) (Real.cos_sq_le_one t23)).trans_lt h22).ne

theorem wc_add (p : Params ℝ) (pose : Iso ℝ) :
    (wc p pose).add ((M3.scaleL p.c4 pose.q.toMat).mulVec V3.ez) = pose.t := by
  unfold wc
  generalize pose.q.toMat = M
  simp only [V3.sub, V3.add, M3.mulVec, M3.scaleL, V3.ez, lit0, lit1, mul_zero, mul_one, zero_add,
    sub_add_cancel]

theorem forwardTheta_of_parts (p : Params ℝ) (pose : Iso ℝ) {θ : J6 ℝ}
    (harm : wcθ p θ = wc p pose) (hrot : roe θ = pose.q.toMat) :
    forwardTheta p θ = (pose.q.toMat, pose.t) := by
  apply Prod.ext
  · rw [forwardTheta_fst]; exact hrot
  · rw [forwardTheta_snd, harm, hrot]; exact wc_add p pose

theorem roe_flipG (t : J6 ℝ) : roe (flipG t) = roe t := by
  rw [flipG_eq]; unfold roe; exact congrArg _ (rce_flip t.j4 t.j5 t.j6)

theorem sin_j5_flipG (t : J6 ℝ) : Real.sin (flipG t).j5 = -Real.sin t.j5 := Real.sin_neg _

theorem forwardTheta_cand_flip (p : Params ℝ) (pose : Iso ℝ) (hq : pose.q.normSq = 1) {t1 t2 t3 : ℝ}
    (harm : wcθ p (cand pose.q.toMat t1 t2 t3) = wc p pose)
    (h5 : Real.sin (flipG (cand pose.q.toMat t1 t2 t3)).j5 ≠ 0) :
    forwardTheta p (flipG (cand pose.q.toMat t1 t2 t3)) = (pose.q.toMat, pose.t) := by
  rw [flipG_eq, forwardTheta_flip']
  rw [sin_j5_flipG, neg_ne_zero] at h5
  exact forwardTheta_of_parts p pose harm
    (roe_cand (IsRot_toMat _ hq) t1 t2 t3 (mm_ne_of_sin_j5 _ t1 t2 t3 h5))

/-- the arm condition of the `i`-th raw candidate (rows 0, 1, 4, 5: front shoulder; rows 2, 3, 6, 7:
back shoulder) -/
def ArmCond (p : Params ℝ) (pose : Iso ℝ) : ℕ → Prop
  | 0 | 1 | 4 | 5 => FrontReach p (wc p pose)
  | 2 | 3 | 6 | 7 => BackReach p (wc p pose)
  | _ => True

/-- arm soundness by row: under the arm condition of row `i` the forward wrist centre of the `i`-th
candidate is that of the pose.  Rows `k` and `k+4` (a candidate and its twin) have the same arm
angles, so their cases read the same. -/
theorem arm_sound_idx (p : Params ℝ) (pose : Iso ℝ) (hc : 0 < p.c2) (hk : 0 < kappa p) (i : ℕ) (t : J6 ℝ)
    (ht : (thetaCandidates p pose)[i]? = some t) (ha : ArmCond p pose i) :
    wcθ p t = wc p pose := by
  rw [thetaCandidates_eq] at ht
  rcases i with _ | _ | _ | _ | _ | _ | _ | _ | n <;> cases ht
  · exact arm_front p _ hc hk ha rfl (.inl ⟨rfl, rfl⟩)
  · exact arm_front p _ hc hk ha rfl (.inr ⟨rfl, rfl⟩)
  · exact arm_back p _ hc hk ha rfl (.inl ⟨rfl, rfl⟩)
  · exact arm_back p _ hc hk ha rfl (.inr ⟨rfl, rfl⟩)
  · exact arm_front p _ hc hk ha rfl (.inl ⟨rfl, rfl⟩)
  · exact arm_front p _ hc hk ha rfl (.inr ⟨rfl, rfl⟩)
  · exact arm_back p _ hc hk ha rfl (.inl ⟨rfl, rfl⟩)
  · exact arm_back p _ hc hk ha rfl (.inr ⟨rfl, rfl⟩)

theorem wrist_sound_mem (p : Params ℝ) (pose : Iso ℝ) (hq : pose.q.normSq = 1) (t : J6 ℝ)
    (ht : t ∈ thetaCandidates p pose) (h5 : Real.sin t.j5 ≠ 0) : roe t = pose.q.toMat := by
  obtain ⟨t1, t2, t3, -, rfl | rfl⟩ := mem_thetaCandidates ht
  · exact roe_cand (IsRot_toMat _ hq) t1 t2 t3 (mm_ne_of_sin_j5 _ t1 t2 t3 h5)
  · rw [sin_j5_flipG, neg_ne_zero] at h5
    rw [roe_flipG]
    exact roe_cand (IsRot_toMat _ hq) t1 t2 t3 (mm_ne_of_sin_j5 _ t1 t2 t3 h5)

theorem candidate_sound_idx (p : Params ℝ) (pose : Iso ℝ) (hc : 0 < p.c2) (hk : 0 < kappa p)
    (hq : pose.q.normSq = 1) (i : ℕ) (t : J6 ℝ) (ht : (thetaCandidates p pose)[i]? = some t)
    (ha : ArmCond p pose i) (h5 : Real.sin t.j5 ≠ 0) :
    forwardTheta p t = (pose.q.toMat, pose.t) :=
  forwardTheta_of_parts p pose (arm_sound_idx p pose hc hk i t ht ha)
    (wrist_sound_mem p pose hq t (List.mem_of_getElem? ht) h5)

/-- the tool axis is `rot4 · (sin θ5, 0, cos θ5)` -/
theorem roe_ez_congr5 {a b : J6 ℝ} (h : Corollaries.J5TurnEq a b) :
    (roe a).mulVec V3.ez = (roe b).mulVec V3.ez := by
  obtain ⟨h1, h2, h3, h4, h5⟩ := h
  simp only [roe_eq_rot6, rot6_mulVec_ez, rot4, rot3, rot2, rot1, h1.sin_eq, h1.cos_eq, h2.sin_eq,
    h2.cos_eq, h3.sin_eq, h3.cos_eq, h4.sin_eq, h4.cos_eq, h5.sin_eq, h5.cos_eq]

theorem finish5_of_forwardTheta (p : Params ℝ) (hs : SignsOk p) (pose : Iso ℝ) (j6 : ℝ) {t : J6 ℝ}
    (h : forwardTheta p t = (pose.q.toMat, pose.t)) :
    finishCandidate5 p pose j6 (jointsOf p t) = some (norm5 (jointsOf p t) j6) ∧
      (forward p (norm5 (jointsOf p t) j6)).t = pose.t ∧
      (forward p (norm5 (jointsOf p t) j6)).q.toMat.mulVec V3.ez = pose.q.toMat.mulVec V3.ez := by
  obtain ⟨hfin, ht⟩ := Corollaries.finish5_of_tr p hs pose j6 (congrArg Prod.snd h)
  refine ⟨hfin, ht, ?_⟩
  rw [forward_toMat, ← roe_eq_rot6, roe_ez_congr5 (Corollaries.thetaOf_norm5_turnEq p hs t j6),
    ← forwardTheta_fst p, h]

theorem armCond_of_reach {p : Params ℝ} {pose : Iso ℝ} (hf : FrontReach p (wc p pose))
    (hb : BackReach p (wc p pose)) (i : ℕ) : ArmCond p pose i := by
  unfold ArmCond
  split <;> first | exact hf | exact hb | trivial

theorem candidate_sound_mem (p : Params ℝ) (pose : Iso ℝ) (hc : 0 < p.c2) (hk : 0 < kappa p)
    (hq : pose.q.normSq = 1) (hf : FrontReach p (wc p pose)) (hb : BackReach p (wc p pose))
    (t : J6 ℝ) (ht : t ∈ thetaCandidates p pose) (h5 : Real.sin t.j5 ≠ 0) :
    forwardTheta p t = (pose.q.toMat, pose.t) := by
  obtain ⟨i, hi⟩ := List.getElem?_of_mem ht
  exact candidate_sound_idx p pose hc hk hq i t hi (armCond_of_reach hf hb i) h5

theorem thetaCandidates_length (p : Params ℝ) (pose : Iso ℝ) : (thetaCandidates p pose).length = 8 := by
  rw [thetaCandidates_eq]; rfl

theorem elbow_ratio_mem (p : Params ℝ) (θ : J6 ℝ) (hc : 0 < p.c2) (hk : 0 < kappa p) {s : ℝ}
    (hs : s = uu p θ * uu p θ + vv p θ * vv p θ) :
    -1 ≤ (s - p.c2 * p.c2 - kappa2 p) / tmp9 p ∧ (s - p.c2 * p.c2 - kappa2 p) / tmp9 p ≤ 1 := by
  rw [hs, elbow_ratio p θ hc hk]; exact ⟨Real.neg_one_le_cos _, Real.cos_le_one _⟩

/-! ### A concrete instance: all branch conditions hold (used for the `example`s of C02d)

Robot with `a1 = 1/2`, `a2 = 3/5`, `b = 0`, `c1 = 1/2`, `c2 = 1`, `c3 = 4/5`, `c4 = 1/4`, mixed signs and
offsets; pose with the tool tilted about `x` (quaternion `(3/5, −4/5, 0, 0)`), wrist centre
`(1, 0, 3/2)`: front elbow ratio `−3/8`, back elbow ratio `5/8`, `cos θ5 = −(7/25) cos θ23` in all rows. -/

noncomputable def pX : Params ℝ :=
  { a1 := 1 / 2, a2 := 3 / 5, b := 0, c1 := 1 / 2, c2 := 1, c3 := 4 / 5, c4 := 1 / 4,
    offsets := ⟨0, 0.3, 0, -0.2, 0, 1⟩, signs := ⟨1, 1, -1, -1, 1, -1⟩, dof := 6 }

noncomputable def poseX : Iso ℝ := ⟨⟨1, 6 / 25, 143 / 100⟩, ⟨3 / 5, -4 / 5, 0, 0⟩⟩

theorem signsOk_pX : SignsOk pX :=
  ⟨Or.inl rfl, Or.inl rfl, Or.inr rfl, Or.inr rfl, Or.inl rfl, Or.inr rfl⟩

theorem poseX_unit : poseX.q.normSq = 1 := by
  simp only [poseX, Quat.normSq]; norm_num

theorem c2_pX : 0 < pX.c2 := by simp only [pX]; norm_num

theorem kappa2_pX : kappa2 pX = 1 := by
  show pX.a2 * pX.a2 + pX.c3 * pX.c3 = 1
  simp only [pX]; norm_num

theorem kappa_pX : kappa pX = 1 := by
  show Real.sqrt (kappa2 pX) = 1
  rw [kappa2_pX, Real.sqrt_one]

theorem kappa_pX_pos : 0 < kappa pX := by rw [kappa_pX]; exact one_pos

theorem tmp9_pX : tmp9 pX = 2 := by
  rw [tmp9_eq, kappa_pX]; simp only [pX]; norm_num

theorem toMat_poseX : poseX.q.toMat = ⟨1, 0, 0, 0, -7 / 25, 24 / 25, 0, -24 / 25, -7 / 25⟩ := by
  simp only [poseX, Quat.toMat, lit2]
  apply M3.ext' <;> norm_num

theorem wc_poseX : wc pX poseX = ⟨1, 0, 3 / 2⟩ := by
  unfold wc
  rw [toMat_poseX]
  simp only [poseX, pX, V3.sub, M3.mulVec, V3.ez, lit0, lit1]
  apply V3.ext' <;> norm_num

theorem nx1_pX : nx1 pX ⟨1, 0, 3 / 2⟩ = 1 / 2 := by
  show Real.sqrt ((1 * 1 + 0 * 0) - pX.b * pX.b) - pX.a1 = 1 / 2
  simp only [pX]
  rw [show (1 * 1 + 0 * 0 : ℝ) - 0 * 0 = 1 by norm_num, Real.sqrt_one]; norm_num

theorem frontReach_X : FrontReach pX (wc pX poseX) := by
  rw [wc_poseX]; unfold FrontReach s1sq
  rw [nx1_pX, kappa2_pX, tmp9_pX]
  simp only [pX]; norm_num

theorem backReach_X : BackReach pX (wc pX poseX) := by
  rw [wc_poseX]; unfold BackReach s2sq
  rw [nx1_pX, lit2, kappa2_pX, tmp9_pX]
  simp only [pX]; norm_num

theorem armCond_X (i : ℕ) : ArmCond pX poseX i := armCond_of_reach frontReach_X backReach_X i

theorem th1i_X : th1i pX (wc pX poseX) = 0 := by
  rw [wc_poseX]; unfold th1i; rw [nx1_pX]
  simp only [natan2_real, pX]
  rw [Nearest.arg_mk_im_zero 1 (by norm_num), Nearest.arg_mk_im_zero _ (by norm_num)]; ring

theorem th1ii_X : th1ii pX (wc pX poseX) = -Real.pi := by
  rw [wc_poseX]; unfold th1ii; rw [nx1_pX]
  simp only [natan2_real, pX, pi_def_real]
  rw [Nearest.arg_mk_im_zero 1 (by norm_num), Nearest.arg_mk_im_zero _ (by norm_num)]; ring

theorem mm_X (t1 t23 : ℝ) (h1 : Real.sin t1 = 0) :
    mmOf poseX.q.toMat t1 t23 * mmOf poseX.q.toMat t1 t23 ≠ 1 := by
  rw [toMat_poseX]
  exact mmOf_sq_ne_one t23 rfl h1 (by norm_num)

theorem wristCond_X : ∀ t ∈ thetaCandidates pX poseX, Real.sin t.j5 ≠ 0 := by
  intro t ht
  obtain ⟨t1, t2, t3, h1, ht⟩ := mem_thetaCandidates ht
  have s1 : Real.sin t1 = 0 := by
    rcases h1 with rfl | rfl
    · rw [th1i_X, Real.sin_zero]
    · rw [th1ii_X, Real.sin_neg, Real.sin_pi, neg_zero]
  have key := sin_j5_of_mm_ne (IsRot_toMat _ poseX_unit) t1 t2 t3 (mm_X t1 (t2 + t3) s1)
  rcases ht with rfl | rfl
  · exact key
  · rw [sin_j5_flipG, neg_ne_zero]; exact key

end Opw.IkSound
