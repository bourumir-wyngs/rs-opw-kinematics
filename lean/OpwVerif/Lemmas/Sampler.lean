/-
  The constraint sampler (`Constraints::random_angles`, model `sampleSpan`/`randomAngle` of
  `Misc.lean`) over ℝ: the span in each of its three cases and when the draw is used.  The
  declarations are in namespace `Opw.MiscReal`; `Props/C18.lean` cites them under these names.
-/
import OpwVerif.Misc
import OpwVerif.Lemmas.Limits
namespace Opw.MiscReal
open Opw Opw.Limits Opw.C07 Real

theorem sampleSpan_of_lt {f t : ℝ} (h : f < t) : sampleSpan f t = t - f := by
  unfold sampleSpan; rw [if_pos h]

theorem sampleSpan_of_eq (f : ℝ) : sampleSpan f f = 2 * π := by
  unfold sampleSpan
  rw [if_neg (lt_irrefl f)]
  simp only [feq_real, decide_true, if_true, lit2, pi_def_real]

theorem sampleSpan_of_gt {f t : ℝ} (h : t < f) :
    sampleSpan f t = (t - f) - 2 * π * ⌊(t - f) / (2 * π)⌋ := by
  unfold sampleSpan
  rw [if_neg (not_lt.mpr h.le)]
  simp only [feq_real, ne_of_gt h, decide_false, Bool.false_eq_true, if_false, lit2,
    pi_def_real]
  exact Angle.remEuclid_real _ Real.two_pi_pos

theorem sampleSpan_eq_unwrapTop_sub {f t : ℝ} (h : t < f) : sampleSpan f t = unwrapTop f t - f := by
  rw [sampleSpan_of_gt h, unwrapTop_eq]
  have hpos : 0 ≤ (f - t) / (2 * π) := div_nonneg (sub_nonneg.2 h.le) two_pi_pos.le
  have hneg : (t - f) / (2 * π) = -((f - t) / (2 * π)) := by rw [← neg_div, neg_sub]
  rw [natCast_ceil_eq_intCast_ceil hpos, hneg, Int.floor_neg, Int.cast_neg, mul_neg, sub_neg_eq_add,
    add_sub_right_comm]

theorem sampleSpan_nonneg_of_gt {f t : ℝ} (h : t < f) : 0 ≤ sampleSpan f t := by
  rw [sampleSpan_of_gt h]; exact fmodR_nonneg _ Real.two_pi_pos

theorem sampleSpan_lt_of_gt {f t : ℝ} (h : t < f) : sampleSpan f t < 2 * π := by
  rw [sampleSpan_of_gt h]; exact fmodR_lt _ Real.two_pi_pos

theorem sampleSpan_pos_of_gt {f t : ℝ} (h : t < f) (hn : ¬ ∃ n : ℤ, f - t = 2 * π * n) :
    0 < sampleSpan f t := by
  rcases (sampleSpan_nonneg_of_gt h).lt_or_eq with h0 | h0
  · exact h0
  · exfalso
    apply hn
    rw [sampleSpan_of_gt h] at h0
    refine ⟨-⌊(t - f) / (2 * π)⌋, ?_⟩
    rw [Int.cast_neg, mul_neg, ← sub_eq_zero.1 h0.symm, neg_sub]

/-- at `ℝ`: the draw is used when the span is positive (this covers `f < t`) -/
theorem randomAngle_of_pos {f t : ℝ} (u : ℝ) (h : 0 < sampleSpan f t) : randomAngle f t u = f + u := by
  unfold randomAngle
  have h' : sampleSpan f t > (@OfNat.ofNat ℝ 0 instOfNatOpw) := by rw [lit0]; exact h
  split_ifs <;> rfl

theorem randomAngle_of_not_pos {f t : ℝ} (u : ℝ) (h1 : ¬ f < t) (h2 : ¬ 0 < sampleSpan f t) :
    randomAngle f t u = f := by
  unfold randomAngle
  have h' : ¬ sampleSpan f t > (@OfNat.ofNat ℝ 0 instOfNatOpw) := by rw [lit0]; exact h2
  rw [if_neg h1, if_neg h']

end Opw.MiscReal
