/-
  Real-number facts about the `Geom.lean` model: at `R := ℝ` the structures `V3`, `M3`, `Quat`,
  `Iso` are the usual vectors, 3×3 matrices, quaternions and rigid motions.  Unit quaternions are
  expressed by the hypothesis `q.normSq = 1`.
-/
import OpwVerif.Geom
import OpwVerif.Real

namespace Opw

theorem V3.ext' {a b : V3 ℝ} (hx : a.x = b.x) (hy : a.y = b.y) (hz : a.z = b.z) : a = b := by
  cases a; cases b; simp_all

theorem M3.ext' {a b : M3 ℝ}
    (h00 : a.m00 = b.m00) (h01 : a.m01 = b.m01) (h02 : a.m02 = b.m02)
    (h10 : a.m10 = b.m10) (h11 : a.m11 = b.m11) (h12 : a.m12 = b.m12)
    (h20 : a.m20 = b.m20) (h21 : a.m21 = b.m21) (h22 : a.m22 = b.m22) : a = b := by
  cases a; cases b; simp_all

theorem Quat.ext' {a b : Quat ℝ} (hw : a.w = b.w) (hi : a.i = b.i) (hj : a.j = b.j)
    (hk : a.k = b.k) : a = b := by
  cases a; cases b; simp_all

theorem Iso.ext' {a b : Iso ℝ} (ht : a.t = b.t) (hq : a.q = b.q) : a = b := by
  cases a; cases b; simp_all

theorem V3.add_assoc (a b c : V3 ℝ) : (a.add b).add c = a.add (b.add c) := by
  simp only [V3.add]
  apply V3.ext' <;> ring

theorem V3.add_comm (a b : V3 ℝ) : a.add b = b.add a := by
  simp only [V3.add]
  apply V3.ext' <;> ring

theorem V3.add_zero (a : V3 ℝ) : a.add V3.zero = a := by
  simp only [V3.add, V3.zero, lit0]
  apply V3.ext' <;> ring

theorem V3.zero_add (a : V3 ℝ) : V3.zero.add a = a := by
  rw [V3.add_comm, V3.add_zero]

theorem V3.add_neg (a : V3 ℝ) : a.add a.neg = V3.zero := by
  simp only [V3.add, V3.neg, V3.zero, lit0]
  apply V3.ext' <;> ring

theorem V3.neg_add (a : V3 ℝ) : a.neg.add a = V3.zero := by
  rw [V3.add_comm, V3.add_neg]

theorem V3.sub_eq_add_neg (a b : V3 ℝ) : a.sub b = a.add b.neg := by
  simp only [V3.add, V3.neg, V3.sub]
  apply V3.ext' <;> ring

theorem V3.add_sub_right (t w o : V3 ℝ) : (t.add w).sub o = (t.sub o).add w := by
  simp only [V3.add, V3.sub]
  apply V3.ext' <;> ring

theorem V3.add_sub_add_cancel (c u w : V3 ℝ) : (c.add u).sub (w.add c) = u.sub w := by
  simp only [V3.add, V3.sub]
  apply V3.ext' <;> ring

theorem V3.scale_mul_divs (a : V3 ℝ) {e : ℝ} (he : e ≠ 0) (s : ℝ) :
    (a.scale (e * s)).divs e = a.scale s := by
  simp only [V3.divs, V3.scale, mul_div_assoc, mul_div_cancel_left₀ _ he]

theorem V3.normSq_eq (a : V3 ℝ) : a.normSq = a.x * a.x + a.y * a.y + a.z * a.z := rfl

theorem V3.normSq_nonneg (a : V3 ℝ) : 0 ≤ a.normSq :=
  add_nonneg (add_nonneg (mul_self_nonneg a.x) (mul_self_nonneg a.y)) (mul_self_nonneg a.z)

theorem V3.norm_eq (a : V3 ℝ) : a.norm = Real.sqrt a.normSq := rfl

theorem V3.norm_nonneg (a : V3 ℝ) : 0 ≤ a.norm := Real.sqrt_nonneg _

theorem V3.norm_neg (a : V3 ℝ) : a.neg.norm = a.norm := by
  simp only [V3.norm, V3.normSq, V3.dot, V3.neg, neg_mul_neg]

theorem V3.norm_sub_comm (p q : V3 ℝ) : (p.sub q).norm = (q.sub p).norm := by
  rw [V3.norm_eq, V3.norm_eq, V3.normSq_eq, V3.normSq_eq]
  congr 1
  simp only [V3.sub]
  ring

theorem V3.normSq_add (a b : V3 ℝ) :
    (a.add b).normSq = a.normSq + b.normSq + 2 * V3.dot a b := by
  simp only [V3.normSq, V3.dot, V3.add]; ring

/-- Lagrange's identity -/
theorem V3.normSq_cross (a b : V3 ℝ) :
    (a.cross b).normSq = a.normSq * b.normSq - a.dot b * a.dot b := by
  simp only [V3.normSq, V3.dot, V3.cross]; ring

theorem V3.norm_cross_le {a : V3 ℝ} (ha : a.normSq = 1) (v : V3 ℝ) : (a.cross v).norm ≤ v.norm := by
  rw [V3.norm_eq, V3.norm_eq]
  apply Real.sqrt_le_sqrt
  rw [V3.normSq_cross, ha, one_mul]
  exact sub_le_self _ (mul_self_nonneg (a.dot v))

/-- Cauchy–Schwarz (from Lagrange's identity) -/
theorem V3.dot_sq_le (a b : V3 ℝ) : V3.dot a b ^ 2 ≤ a.normSq * b.normSq := by
  linear_combination V3.normSq_nonneg (V3.cross a b) + V3.normSq_cross a b

theorem V3.dot_le_norm_mul (a b : V3 ℝ) : V3.dot a b ≤ a.norm * b.norm := by
  rw [V3.norm_eq, V3.norm_eq, ← Real.sqrt_mul (V3.normSq_nonneg a)]
  exact (le_abs_self _).trans (Real.abs_le_sqrt (V3.dot_sq_le a b))

theorem V3.norm_add_le (a b : V3 ℝ) : (a.add b).norm ≤ a.norm + b.norm := by
  rw [V3.norm_eq (a.add b)]
  refine Real.sqrt_le_iff.mpr ⟨add_nonneg (V3.norm_nonneg a) (V3.norm_nonneg b), ?_⟩
  -- `|a|² + |b|² + 2 a·b ≤ |a|² + 2|a||b| + |b|²`
  rw [V3.normSq_add, add_sq, V3.norm_eq a, V3.norm_eq b, Real.sq_sqrt (V3.normSq_nonneg a),
    Real.sq_sqrt (V3.normSq_nonneg b), ← V3.norm_eq a, ← V3.norm_eq b]
  linarith [V3.dot_le_norm_mul a b]

theorem V3.dot_comm (a b : V3 ℝ) : a.dot b = b.dot a := by
  simp only [V3.dot]; ring

theorem V3.dot_cross_self_left (a b : V3 ℝ) : a.dot (a.cross b) = 0 := by
  simp only [V3.dot, V3.cross]; ring

theorem V3.dot_cross_self_right (a b : V3 ℝ) : b.dot (a.cross b) = 0 := by
  simp only [V3.dot, V3.cross]; ring

theorem V3.norm_mul_self (a : V3 ℝ) : a.norm * a.norm = a.normSq :=
  Real.mul_self_sqrt (V3.normSq_nonneg a)

theorem V3.norm_eq_zero_iff (a : V3 ℝ) : a.norm = 0 ↔ a.normSq = 0 := by
  rw [V3.norm_eq, Real.sqrt_eq_zero (V3.normSq_nonneg a)]

theorem V3.normSq_eq_zero_iff (a : V3 ℝ) : a.normSq = 0 ↔ a = V3.zero := by
  constructor
  · intro h
    rw [V3.normSq_eq] at h
    have hx := mul_self_nonneg a.x
    have hy := mul_self_nonneg a.y
    obtain ⟨hxy, hz⟩ := (add_eq_zero_iff_of_nonneg (add_nonneg hx hy) (mul_self_nonneg a.z)).mp h
    obtain ⟨hx, hy⟩ := (add_eq_zero_iff_of_nonneg hx hy).mp hxy
    exact V3.ext' ((mul_self_eq_zero.mp hx).trans lit0.symm) ((mul_self_eq_zero.mp hy).trans lit0.symm)
      ((mul_self_eq_zero.mp hz).trans lit0.symm)
  · rintro rfl
    simp only [V3.normSq, V3.dot, V3.zero, lit0, mul_zero, _root_.add_zero]

/-- by Lagrange's identity `‖a × b‖² ≤ ‖a‖² ‖b‖²` -/
theorem V3.norm_cross_eq_zero {a b : V3 ℝ} (h : a.normSq * b.normSq = 0) : (a.cross b).norm = 0 := by
  apply (V3.norm_eq_zero_iff _).2 (le_antisymm _ (V3.normSq_nonneg _))
  rw [V3.normSq_cross, h, zero_sub]
  exact neg_nonpos.mpr (mul_self_nonneg (a.dot b))

theorem V3.norm_left_ne_zero_of_cross {a b : V3 ℝ} (h : (a.cross b).norm ≠ 0) : a.norm ≠ 0 :=
  fun ha => h (V3.norm_cross_eq_zero (by rw [(V3.norm_eq_zero_iff a).1 ha, zero_mul]))

theorem V3.dot_normalize_normalize (a b : V3 ℝ) :
    a.normalize.dot b.normalize = a.dot b / (a.norm * b.norm) := by
  simp only [V3.normalize, V3.divs, V3.dot]; ring

theorem V3.dot_normalize_self {a : V3 ℝ} (h : a.norm ≠ 0) : a.normalize.dot a.normalize = 1 := by
  rw [V3.dot_normalize_normalize, V3.norm_mul_self]
  exact div_self (mt (V3.norm_eq_zero_iff a).2 h)

theorem V3.abs_comp_le_norm (u : V3 ℝ) : |u.x| ≤ u.norm ∧ |u.y| ≤ u.norm ∧ |u.z| ≤ u.norm := by
  rw [V3.norm_eq, V3.normSq_eq]
  refine ⟨Real.abs_le_sqrt ?_, Real.abs_le_sqrt ?_, Real.abs_le_sqrt ?_⟩
  · linear_combination mul_self_nonneg u.y + mul_self_nonneg u.z
  · linear_combination mul_self_nonneg u.x + mul_self_nonneg u.z
  · linear_combination mul_self_nonneg u.x + mul_self_nonneg u.y

/-- determinant (first-row expansion) -/
def M3.det (a : M3 ℝ) : ℝ :=
  a.m00 * (a.m11 * a.m22 - a.m12 * a.m21) - a.m01 * (a.m10 * a.m22 - a.m12 * a.m20)
    + a.m02 * (a.m10 * a.m21 - a.m11 * a.m20)

/-- cofactor matrix -/
def M3.cof (a : M3 ℝ) : M3 ℝ :=
  ⟨a.m11 * a.m22 - a.m12 * a.m21, a.m12 * a.m20 - a.m10 * a.m22, a.m10 * a.m21 - a.m11 * a.m20,
   a.m02 * a.m21 - a.m01 * a.m22, a.m00 * a.m22 - a.m02 * a.m20, a.m01 * a.m20 - a.m00 * a.m21,
   a.m01 * a.m12 - a.m02 * a.m11, a.m02 * a.m10 - a.m00 * a.m12, a.m00 * a.m11 - a.m01 * a.m10⟩

theorem M3.one_eq : (M3.one : M3 ℝ) = ⟨1, 0, 0, 0, 1, 0, 0, 0, 1⟩ := by
  simp only [M3.one, lit0, lit1]

theorem M3.mulVec_mulVec (a b : M3 ℝ) (v : V3 ℝ) :
    (a.mul b).mulVec v = a.mulVec (b.mulVec v) := by
  simp only [M3.mul, M3.mulVec]
  apply V3.ext' <;> ring

/-- it suffices to compare on the three unit vectors -/
theorem M3.ext_mulVec {a b : M3 ℝ} (h : ∀ v, a.mulVec v = b.mulVec v) : a = b := by
  have hx := h ⟨1, 0, 0⟩
  have hy := h ⟨0, 1, 0⟩
  have hz := h ⟨0, 0, 1⟩
  simp only [M3.mulVec, V3.mk.injEq, _root_.mul_one, mul_zero, add_zero, zero_add] at hx hy hz
  exact M3.ext' hx.1 hy.1 hz.1 hx.2.1 hy.2.1 hz.2.1 hx.2.2 hy.2.2 hz.2.2

theorem M3.one_mulVec (v : V3 ℝ) : M3.one.mulVec v = v := by
  simp only [M3.mulVec, M3.one, lit0, lit1]
  apply V3.ext' <;> ring

theorem M3.mul_assoc (a b c : M3 ℝ) : (a.mul b).mul c = a.mul (b.mul c) :=
  M3.ext_mulVec fun v => by simp only [M3.mulVec_mulVec]

theorem M3.mul_one (a : M3 ℝ) : a.mul M3.one = a :=
  M3.ext_mulVec fun v => by rw [M3.mulVec_mulVec, M3.one_mulVec]

theorem M3.one_mul (a : M3 ℝ) : M3.one.mul a = a :=
  M3.ext_mulVec fun v => by rw [M3.mulVec_mulVec, M3.one_mulVec]

theorem M3.mulVec_add (a : M3 ℝ) (u v : V3 ℝ) :
    a.mulVec (u.add v) = (a.mulVec u).add (a.mulVec v) := by
  simp only [M3.mulVec, V3.add]
  apply V3.ext' <;> ring

theorem M3.mulVec_neg (a : M3 ℝ) (v : V3 ℝ) : a.mulVec v.neg = (a.mulVec v).neg := by
  simp only [M3.mulVec, V3.neg]
  apply V3.ext' <;> ring

theorem M3.mulVec_zero (a : M3 ℝ) : a.mulVec V3.zero = V3.zero := by
  simp only [M3.mulVec, V3.zero, lit0]
  apply V3.ext' <;> ring

theorem M3.mulVec_divs (m : M3 ℝ) (a : V3 ℝ) (s : ℝ) : m.mulVec (a.divs s) = (m.mulVec a).divs s := by
  simp only [M3.mulVec, V3.divs]
  apply V3.ext' <;> ring

theorem M3.mulVec_sub (m : M3 ℝ) (a b : V3 ℝ) : m.mulVec (a.sub b) = (m.mulVec a).sub (m.mulVec b) := by
  rw [V3.sub_eq_add_neg, M3.mulVec_add, M3.mulVec_neg, ← V3.sub_eq_add_neg]

theorem M3.mulVec_ex (m : M3 ℝ) : m.mulVec ⟨1, 0, 0⟩ = m.col0 := by
  simp only [M3.mulVec, M3.col0]
  apply V3.ext' <;> ring

theorem M3.mulVec_ey (m : M3 ℝ) : m.mulVec ⟨0, 1, 0⟩ = m.col1 := by
  simp only [M3.mulVec, M3.col1]
  apply V3.ext' <;> ring

theorem M3.transpose_transpose (a : M3 ℝ) : a.transpose.transpose = a := rfl

theorem M3.transpose_mul (a b : M3 ℝ) : (a.mul b).transpose = b.transpose.mul a.transpose := by
  simp only [M3.mul, M3.transpose, mul_comm]

theorem M3.transpose_one : (M3.one : M3 ℝ).transpose = M3.one := rfl

theorem M3.det_mul (a b : M3 ℝ) : (a.mul b).det = a.det * b.det := by
  simp only [M3.det, M3.mul]; ring

theorem M3.det_one : (M3.one : M3 ℝ).det = 1 := by
  simp only [M3.det, M3.one, lit0, lit1]; ring

theorem M3.det_transpose (a : M3 ℝ) : a.transpose.det = a.det := by
  simp only [M3.det, M3.transpose]; ring

theorem M3.dot_mulVec (m : M3 ℝ) (u w : V3 ℝ) :
    (m.mulVec u).dot w = u.dot (m.transpose.mulVec w) := by
  simp only [V3.dot, M3.mulVec, M3.transpose]; ring

theorem M3.dot_mulVec_mulVec {m : M3 ℝ} (h : m.transpose.mul m = M3.one) (u v : V3 ℝ) :
    (m.mulVec u).dot (m.mulVec v) = u.dot v := by
  rw [M3.dot_mulVec, ← M3.mulVec_mulVec, h, M3.one_mulVec]

theorem M3.rz_mul_rz (s1 c1 s2 c2 : ℝ) :
    (M3.rz s1 c1).mul (M3.rz s2 c2) = M3.rz (s1 * c2 + c1 * s2) (c1 * c2 - s1 * s2) := by
  simp only [M3.mul, M3.rz, lit0, lit1]
  apply M3.ext' <;> ring

theorem M3.ry_mul_ry (s1 c1 s2 c2 : ℝ) :
    (M3.ry s1 c1).mul (M3.ry s2 c2) = M3.ry (s1 * c2 + c1 * s2) (c1 * c2 - s1 * s2) := by
  simp only [M3.mul, M3.ry, lit0, lit1]
  apply M3.ext' <;> ring

theorem M3.col0_ofColumns (a b c : V3 ℝ) : (M3.ofColumns a b c).col0 = a := rfl
theorem M3.col1_ofColumns (a b c : V3 ℝ) : (M3.ofColumns a b c).col1 = b := rfl
theorem M3.col2_ofColumns (a b c : V3 ℝ) : (M3.ofColumns a b c).col2 = c := rfl

theorem M3.mul_eq_ofColumns (a b : M3 ℝ) :
    a.mul b = M3.ofColumns (a.mulVec b.col0) (a.mulVec b.col1) (a.mulVec b.col2) := by
  -- `by rfl`: elaborated as a term, `rfl` compares the nine entries more than once
  rfl

/-- the Gram matrix of the columns -/
theorem M3.transpose_mul_ofColumns (a b c : V3 ℝ) :
    (M3.ofColumns a b c).transpose.mul (M3.ofColumns a b c) =
      ⟨a.dot a, a.dot b, a.dot c, b.dot a, b.dot b, b.dot c, c.dot a, c.dot b, c.dot c⟩ := by
  rfl

theorem M3.det_ofColumns (a b c : V3 ℝ) : (M3.ofColumns a b c).det = (a.cross b).dot c := by
  simp only [M3.det, M3.ofColumns, V3.cross, V3.dot]; ring

theorem M3.cross_mulVec (m : M3 ℝ) (a b : V3 ℝ) :
    (m.mulVec a).cross (m.mulVec b) = m.cof.mulVec (a.cross b) := by
  simp only [M3.mulVec, V3.cross, M3.cof]
  apply V3.ext' <;> ring

theorem M3.cof_eq_ofColumns (a : M3 ℝ) :
    a.cof = M3.ofColumns (a.col1.cross a.col2) (a.col2.cross a.col0) (a.col0.cross a.col1) := by
  simp only [M3.cof, M3.ofColumns, M3.col0, M3.col1, M3.col2, V3.cross]
  apply M3.ext' <;> ring

theorem M3.cof_mul (a b : M3 ℝ) : (a.mul b).cof = a.cof.mul b.cof := by
  rw [M3.cof_eq_ofColumns (a.mul b), M3.mul_eq_ofColumns a b, M3.mul_eq_ofColumns a.cof,
    M3.cof_eq_ofColumns b]
  simp only [M3.col0_ofColumns, M3.col1_ofColumns, M3.col2_ofColumns, M3.cross_mulVec]

/-- `m · adj m = det m · 1`, with `adj m = (cof m)ᵀ` -/
theorem M3.mul_cof_transpose (m : M3 ℝ) :
    m.mul m.cof.transpose = ⟨m.det, 0, 0, 0, m.det, 0, 0, 0, m.det⟩ := by
  simp only [M3.mul, M3.cof, M3.transpose, M3.det]
  apply M3.ext' <;> ring

theorem Quat.normSq_eq (q : Quat ℝ) :
    q.normSq = q.w * q.w + q.i * q.i + q.j * q.j + q.k * q.k := rfl

theorem Quat.normSq_nonneg (q : Quat ℝ) : 0 ≤ q.normSq :=
  add_nonneg (add_nonneg (add_nonneg (mul_self_nonneg q.w) (mul_self_nonneg q.i)) (mul_self_nonneg q.j))
    (mul_self_nonneg q.k)

theorem Quat.mul_assoc (a b c : Quat ℝ) : (a.mul b).mul c = a.mul (b.mul c) := by
  simp only [Quat.mul]
  apply Quat.ext' <;> ring

theorem Quat.one_mul (a : Quat ℝ) : Quat.one.mul a = a := by
  simp only [Quat.mul, Quat.one, lit0, lit1]
  apply Quat.ext' <;> ring

theorem Quat.mul_one (a : Quat ℝ) : a.mul Quat.one = a := by
  simp only [Quat.mul, Quat.one, lit0, lit1]
  apply Quat.ext' <;> ring

theorem Quat.normSq_mul (a b : Quat ℝ) : (a.mul b).normSq = a.normSq * b.normSq := by
  simp only [Quat.normSq, Quat.mul]; ring

theorem Quat.normSq_conj (q : Quat ℝ) : q.conj.normSq = q.normSq := by
  simp only [Quat.normSq, Quat.conj, neg_mul_neg]

theorem Quat.normSq_neg (q : Quat ℝ) : q.neg.normSq = q.normSq := by
  simp only [Quat.normSq, Quat.neg, neg_mul_neg]

theorem Quat.normSq_one : (Quat.one : Quat ℝ).normSq = 1 := by
  simp only [Quat.normSq, Quat.one, lit0, lit1]; ring

theorem Quat.conj_conj (q : Quat ℝ) : q.conj.conj = q := by
  simp only [Quat.conj, neg_neg]

theorem Quat.conj_mul (a b : Quat ℝ) : (a.mul b).conj = b.conj.mul a.conj := by
  simp only [Quat.conj, Quat.mul]
  apply Quat.ext' <;> ring

theorem Quat.neg_mul (a b : Quat ℝ) : a.neg.mul b = (a.mul b).neg := by
  simp only [Quat.mul, Quat.neg]
  apply Quat.ext' <;> ring

theorem Quat.mul_conj_neg (x a : Quat ℝ) : x.mul a.neg.conj = (x.mul a.conj).neg := by
  simp only [Quat.mul, Quat.neg, Quat.conj]
  apply Quat.ext' <;> ring

theorem Quat.conj_one : (Quat.one : Quat ℝ).conj = Quat.one := by
  simp only [Quat.conj, Quat.one, lit0, lit1]
  apply Quat.ext' <;> ring

theorem Quat.mul_conj_self (q : Quat ℝ) (h : q.normSq = 1) : q.mul q.conj = Quat.one := by
  rw [Quat.normSq_eq] at h
  simp only [Quat.conj, Quat.mul, Quat.one, lit0, lit1]
  apply Quat.ext'
  · linear_combination h
  all_goals ring

theorem Quat.conj_mul_self (q : Quat ℝ) (h : q.normSq = 1) : q.conj.mul q = Quat.one := by
  have hc := Quat.mul_conj_self q.conj (by rw [Quat.normSq_conj, h])
  rwa [Quat.conj_conj] at hc

theorem Quat.normSq_mul_unit (a b : Quat ℝ) (ha : a.normSq = 1) (hb : b.normSq = 1) :
    (a.mul b).normSq = 1 := by
  rw [Quat.normSq_mul, ha, hb, _root_.mul_one]

theorem Quat.normSq_conj_unit (q : Quat ℝ) (h : q.normSq = 1) : q.conj.normSq = 1 := by
  rw [Quat.normSq_conj, h]

/-- `toMat q` is the matrix of `v ↦ q v q̄` on pure quaternions (for every `q`, unit or not) -/
theorem Quat.mul_pure_mul_conj (q : Quat ℝ) (v : V3 ℝ) :
    (q.mul ⟨0, v.x, v.y, v.z⟩).mul q.conj =
      ⟨0, (q.toMat.mulVec v).x, (q.toMat.mulVec v).y, (q.toMat.mulVec v).z⟩ := by
  simp only [Quat.mul, Quat.conj, Quat.toMat, M3.mulVec, lit2]
  apply Quat.ext' <;> ring

theorem Quat.toMat_mul (a b : Quat ℝ) : (a.mul b).toMat = a.toMat.mul b.toMat := by
  apply M3.ext_mulVec
  intro v
  -- `(a b) v (a b)‾ = a (b v b̄) ā`
  have h := Quat.mul_pure_mul_conj (a.mul b) v
  rw [Quat.conj_mul, ← Quat.mul_assoc, Quat.mul_assoc a b, Quat.mul_assoc a,
    Quat.mul_pure_mul_conj b, Quat.mul_pure_mul_conj a] at h
  rw [M3.mulVec_mulVec]
  exact V3.ext' (congrArg Quat.i h).symm (congrArg Quat.j h).symm (congrArg Quat.k h).symm

theorem Quat.toMat_one : (Quat.one : Quat ℝ).toMat = M3.one := by
  simp only [Quat.toMat, Quat.one, M3.one, lit0, lit1, lit2, mul_zero, zero_mul, _root_.mul_one,
    add_zero, sub_zero, sub_self]

theorem Quat.toMat_conj (q : Quat ℝ) : q.conj.toMat = q.toMat.transpose := by
  simp only [Quat.toMat, Quat.conj, M3.transpose, lit2]
  apply M3.ext' <;> ring

theorem Quat.toMat_neg (q : Quat ℝ) : q.neg.toMat = q.toMat := by
  simp only [Quat.toMat, Quat.neg, neg_mul_neg]

/-- `rotate` and the rotation matrix differ by `(1 - |q|²) v` … -/
theorem Quat.rotate_eq (q : Quat ℝ) (v : V3 ℝ) :
    q.rotate v = (q.toMat.mulVec v).add (v.scale (1 - q.normSq)) := by
  simp only [Quat.rotate, Quat.toMat, Quat.imag, Quat.normSq, M3.mulVec, V3.cross, V3.scale,
    V3.add, lit2]
  apply V3.ext' <;> ring

/-- … so they agree on unit quaternions, and `rotate` is linear for every `q`. -/
theorem Quat.rotate_eq_mulVec (q : Quat ℝ) (h : q.normSq = 1) (v : V3 ℝ) :
    q.rotate v = q.toMat.mulVec v := by
  rw [Quat.rotate_eq, h]
  simp only [V3.add, V3.scale, sub_self, mul_zero, add_zero]

theorem Quat.rotate_add (q : Quat ℝ) (u v : V3 ℝ) :
    q.rotate (u.add v) = (q.rotate u).add (q.rotate v) := by
  simp only [Quat.rotate_eq, M3.mulVec_add]
  simp only [V3.add, V3.scale]
  apply V3.ext' <;> ring

theorem Quat.rotate_neg (q : Quat ℝ) (v : V3 ℝ) : q.rotate v.neg = (q.rotate v).neg := by
  simp only [Quat.rotate_eq, M3.mulVec_neg]
  simp only [V3.add, V3.scale, V3.neg]
  apply V3.ext' <;> ring

theorem Quat.rotate_zero (q : Quat ℝ) : q.rotate V3.zero = V3.zero := by
  rw [Quat.rotate_eq, M3.mulVec_zero]
  simp only [V3.add, V3.scale, V3.zero, lit0, zero_mul, add_zero]

theorem Quat.one_rotate (v : V3 ℝ) : (Quat.one : Quat ℝ).rotate v = v := by
  rw [Quat.rotate_eq_mulVec _ Quat.normSq_one, Quat.toMat_one, M3.one_mulVec]

theorem Quat.rotate_mul (a b : Quat ℝ) (ha : a.normSq = 1) (hb : b.normSq = 1) (v : V3 ℝ) :
    (a.mul b).rotate v = a.rotate (b.rotate v) := by
  rw [Quat.rotate_eq_mulVec _ (Quat.normSq_mul_unit a b ha hb), Quat.rotate_eq_mulVec a ha,
    Quat.rotate_eq_mulVec b hb, Quat.toMat_mul, M3.mulVec_mulVec]

theorem Quat.rotate_conj_rotate (q : Quat ℝ) (h : q.normSq = 1) (v : V3 ℝ) :
    q.rotate (q.conj.rotate v) = v := by
  rw [← Quat.rotate_mul q q.conj h (Quat.normSq_conj_unit q h), Quat.mul_conj_self q h,
    Quat.one_rotate]

theorem Quat.conj_rotate_rotate (q : Quat ℝ) (h : q.normSq = 1) (v : V3 ℝ) :
    q.conj.rotate (q.rotate v) = v := by
  rw [← Quat.rotate_mul q.conj q (Quat.normSq_conj_unit q h) h, Quat.conj_mul_self q h,
    Quat.one_rotate]

theorem Quat.toMat_mul_transpose (q : Quat ℝ) (h : q.normSq = 1) :
    q.toMat.mul q.toMat.transpose = M3.one := by
  rw [← Quat.toMat_conj, ← Quat.toMat_mul, Quat.mul_conj_self q h, Quat.toMat_one]

theorem Quat.toMat_transpose_mul (q : Quat ℝ) (h : q.normSq = 1) :
    q.toMat.transpose.mul q.toMat = M3.one := by
  rw [← Quat.toMat_conj, ← Quat.toMat_mul, Quat.conj_mul_self q h, Quat.toMat_one]

theorem Quat.dot_rotate (q : Quat ℝ) (h : q.normSq = 1) (u v : V3 ℝ) :
    (q.rotate u).dot (q.rotate v) = u.dot v := by
  rw [Quat.rotate_eq_mulVec q h, Quat.rotate_eq_mulVec q h,
    M3.dot_mulVec_mulVec (Quat.toMat_transpose_mul q h)]

/-- rotations preserve the squared norm (`norm_rotate'` is the statement about `norm`) -/
theorem Quat.norm_rotate (q : Quat ℝ) (h : q.normSq = 1) (v : V3 ℝ) :
    (q.rotate v).normSq = v.normSq := Quat.dot_rotate q h v v

theorem Quat.norm_rotate' (q : Quat ℝ) (h : q.normSq = 1) (v : V3 ℝ) :
    (q.rotate v).norm = v.norm := by
  simp only [V3.norm, Quat.norm_rotate q h v]

theorem Quat.det_toMat_eq (q : Quat ℝ) : q.toMat.det = q.normSq * q.normSq * q.normSq := by
  simp only [M3.det, Quat.toMat, Quat.normSq, lit2]; ring

theorem Quat.det_toMat (q : Quat ℝ) (h : q.normSq = 1) : q.toMat.det = 1 := by
  rw [Quat.det_toMat_eq, h]; ring

theorem Quat.angle_neg (q : Quat ℝ) : q.neg.angle = q.angle := by
  simp only [Quat.angle, Quat.neg, Quat.imag, V3.norm, V3.normSq, V3.dot, nabs_real, abs_neg,
    neg_mul_neg]

theorem Quat.angleTo_neg_left (a x : Quat ℝ) : Quat.angleTo a.neg x = Quat.angleTo a x := by
  unfold Quat.angleTo Quat.rotationTo
  rw [Quat.mul_conj_neg, Quat.angle_neg]

theorem Quat.rotZ_eq (θ : ℝ) :
    Quat.rotZ θ = ⟨Real.cos (θ / 2), 0, 0, Real.sin (θ / 2)⟩ := by
  simp only [Quat.rotZ, Quat.ofAxisAngle, lit0, lit1, lit2, nsin_real, ncos_real]
  apply Quat.ext' <;> ring

theorem Quat.rotY_eq (θ : ℝ) :
    Quat.rotY θ = ⟨Real.cos (θ / 2), 0, Real.sin (θ / 2), 0⟩ := by
  simp only [Quat.rotY, Quat.ofAxisAngle, lit0, lit1, lit2, nsin_real, ncos_real]
  apply Quat.ext' <;> ring

theorem sin_half_double (θ : ℝ) :
    Real.sin θ = 2 * Real.sin (θ / 2) * Real.cos (θ / 2) := by
  rw [← Real.sin_two_mul]; congr 1; ring

private theorem cos_half_double (θ : ℝ) :
    Real.cos θ = Real.cos (θ / 2) * Real.cos (θ / 2) - Real.sin (θ / 2) * Real.sin (θ / 2) := by
  rw [← Real.cos_add, add_halves]

theorem Quat.normSq_rotZ (θ : ℝ) : (Quat.rotZ θ).normSq = 1 := by
  rw [Quat.rotZ_eq, Quat.normSq_eq]
  have h1 := Real.sin_sq_add_cos_sq (θ / 2)
  linear_combination h1

theorem Quat.normSq_rotY (θ : ℝ) : (Quat.rotY θ).normSq = 1 := by
  rw [Quat.rotY_eq, Quat.normSq_eq]
  have h1 := Real.sin_sq_add_cos_sq (θ / 2)
  linear_combination h1

theorem Quat.toMat_rotZ (θ : ℝ) : (Quat.rotZ θ).toMat = M3.rz (Real.sin θ) (Real.cos θ) := by
  rw [Quat.rotZ_eq, sin_half_double θ, cos_half_double θ]
  have h1 := Real.sin_sq_add_cos_sq (θ / 2)
  simp only [Quat.toMat, M3.rz, lit0, lit1, lit2]
  apply M3.ext'
  -- the axis entry is `cos² + sin² = 1`, the others are polynomial identities
  case h22 => linear_combination h1
  all_goals ring

theorem Quat.toMat_rotY (θ : ℝ) : (Quat.rotY θ).toMat = M3.ry (Real.sin θ) (Real.cos θ) := by
  rw [Quat.rotY_eq, sin_half_double θ, cos_half_double θ]
  have h1 := Real.sin_sq_add_cos_sq (θ / 2)
  simp only [Quat.toMat, M3.ry, lit0, lit1, lit2]
  apply M3.ext'
  case h11 => linear_combination h1
  all_goals ring

theorem Iso.mul_unit (a b : Iso ℝ) (ha : a.q.normSq = 1) (hb : b.q.normSq = 1) :
    (a.mul b).q.normSq = 1 := Quat.normSq_mul_unit a.q b.q ha hb

theorem Iso.inv_unit (a : Iso ℝ) (ha : a.q.normSq = 1) : a.inv.q.normSq = 1 :=
  Quat.normSq_conj_unit a.q ha

theorem Iso.one_unit : (Iso.one : Iso ℝ).q.normSq = 1 := Quat.normSq_one

theorem Iso.mul_assoc (a b c : Iso ℝ) (ha : a.q.normSq = 1) (hb : b.q.normSq = 1) :
    (a.mul b).mul c = a.mul (b.mul c) := by
  apply Iso.ext'
  · show (a.t.add (a.q.rotate b.t)).add ((a.q.mul b.q).rotate c.t)
        = a.t.add (a.q.rotate (b.t.add (b.q.rotate c.t)))
    rw [Quat.rotate_mul a.q b.q ha hb, Quat.rotate_add, V3.add_assoc]
  · exact Quat.mul_assoc a.q b.q c.q

theorem Iso.one_mul (a : Iso ℝ) : Iso.one.mul a = a := by
  apply Iso.ext'
  · show V3.zero.add (Quat.one.rotate a.t) = a.t
    rw [Quat.one_rotate, V3.zero_add]
  · exact Quat.one_mul a.q

theorem Iso.mul_one (a : Iso ℝ) : a.mul Iso.one = a := by
  apply Iso.ext'
  · show a.t.add (a.q.rotate V3.zero) = a.t
    rw [Quat.rotate_zero, V3.add_zero]
  · exact Quat.mul_one a.q

theorem Iso.mul_inv_cancel (a : Iso ℝ) (h : a.q.normSq = 1) : a.mul a.inv = Iso.one := by
  apply Iso.ext'
  · show a.t.add (a.q.rotate (a.q.conj.rotate a.t.neg)) = V3.zero
    rw [Quat.rotate_conj_rotate a.q h, V3.add_neg]
  · exact Quat.mul_conj_self a.q h

theorem Iso.inv_mul_cancel (a : Iso ℝ) (h : a.q.normSq = 1) : a.inv.mul a = Iso.one := by
  apply Iso.ext'
  · show (a.q.conj.rotate a.t.neg).add (a.q.conj.rotate a.t) = V3.zero
    rw [← Quat.rotate_add, V3.neg_add, Quat.rotate_zero]
  · exact Quat.conj_mul_self a.q h

theorem Iso.transformPoint_mul (a b : Iso ℝ) (ha : a.q.normSq = 1) (hb : b.q.normSq = 1)
    (p : V3 ℝ) : (a.mul b).transformPoint p = a.transformPoint (b.transformPoint p) := by
  show ((a.q.mul b.q).rotate p).add (a.t.add (a.q.rotate b.t))
      = (a.q.rotate ((b.q.rotate p).add b.t)).add a.t
  rw [Quat.rotate_mul a.q b.q ha hb, Quat.rotate_add, V3.add_assoc,
    V3.add_comm (a.q.rotate b.t) a.t]

theorem Iso.transformPoint_one (p : V3 ℝ) : (Iso.one : Iso ℝ).transformPoint p = p := by
  show (Quat.one.rotate p).add V3.zero = p
  rw [Quat.one_rotate, V3.add_zero]

theorem Iso.transformPoint_inv (a : Iso ℝ) (h : a.q.normSq = 1) (p : V3 ℝ) :
    a.inv.transformPoint (a.transformPoint p) = p := by
  rw [← Iso.transformPoint_mul a.inv a (Iso.inv_unit a h) h, Iso.inv_mul_cancel a h,
    Iso.transformPoint_one]

theorem Iso.transformPoint_zero (a : Iso ℝ) : a.transformPoint V3.zero = a.t := by
  show (a.q.rotate V3.zero).add a.t = a.t
  rw [Quat.rotate_zero, V3.zero_add]

section
variable {R : Type} [OpwNum R]

/-- the same rigid motion: equal translation, equal rotation MATRIX (a quaternion and its negative
are the same rotation) -/
def Iso.Same (a b : Iso R) : Prop := a.t = b.t ∧ a.q.toMat = b.q.toMat

theorem Iso.Same.refl (a : Iso R) : Iso.Same a a := ⟨rfl, rfl⟩
theorem Iso.Same.of_eq {a b : Iso R} (h : a = b) : Iso.Same a b := h ▸ Iso.Same.refl a
theorem Iso.Same.symm {a b : Iso R} (h : Iso.Same a b) : Iso.Same b a := ⟨h.1.symm, h.2.symm⟩
theorem Iso.Same.trans {a b c : Iso R} (h1 : Iso.Same a b) (h2 : Iso.Same b c) : Iso.Same a c :=
  ⟨h1.1.trans h2.1, h1.2.trans h2.2⟩

end

theorem Iso.same_neg (a : Iso ℝ) : Iso.Same a ⟨a.t, a.q.neg⟩ := ⟨rfl, (Quat.toMat_neg a.q).symm⟩

theorem Iso.Same.mul_left {a b : Iso ℝ} (c : Iso ℝ) (h : Iso.Same a b) :
    Iso.Same (c.mul a) (c.mul b) := by
  refine ⟨?_, ?_⟩
  · show c.t.add (c.q.rotate a.t) = c.t.add (c.q.rotate b.t)
    rw [h.1]
  · show (c.q.mul a.q).toMat = (c.q.mul b.q).toMat
    rw [Quat.toMat_mul, Quat.toMat_mul, h.2]

theorem Iso.Same.mul_right {a b : Iso ℝ} (c : Iso ℝ) (ha : a.q.normSq = 1) (hb : b.q.normSq = 1)
    (h : Iso.Same a b) : Iso.Same (a.mul c) (b.mul c) := by
  refine ⟨?_, ?_⟩
  · show a.t.add (a.q.rotate c.t) = b.t.add (b.q.rotate c.t)
    rw [Quat.rotate_eq_mulVec a.q ha, Quat.rotate_eq_mulVec b.q hb, h.1, h.2]
  · show (a.q.mul c.q).toMat = (b.q.mul c.q).toMat
    rw [Quat.toMat_mul, Quat.toMat_mul, h.2]

/-! Cancellation laws; they ask for unit quaternions because `Iso.mul_assoc` needs that of its first two factors. -/

theorem Iso.mul_inv_cancel_right {a t : Iso ℝ} (ha : a.q.normSq = 1) (ht : t.q.normSq = 1) :
    (a.mul t).mul t.inv = a := by
  rw [Iso.mul_assoc a t t.inv ha ht, Iso.mul_inv_cancel t ht, Iso.mul_one]

theorem Iso.inv_mul_cancel_right {t pose : Iso ℝ} (ht : t.q.normSq = 1) (hp : pose.q.normSq = 1) :
    (pose.mul t.inv).mul t = pose := by
  rw [Iso.mul_assoc pose t.inv t hp (Iso.inv_unit t ht), Iso.inv_mul_cancel t ht, Iso.mul_one]

theorem Iso.inv_mul_cancel_left {b : Iso ℝ} (a : Iso ℝ) (hb : b.q.normSq = 1) :
    b.inv.mul (b.mul a) = a := by
  rw [← Iso.mul_assoc b.inv b a (Iso.inv_unit b hb) hb, Iso.inv_mul_cancel b hb, Iso.one_mul]

theorem Iso.mul_inv_cancel_left {b : Iso ℝ} (pose : Iso ℝ) (hb : b.q.normSq = 1) :
    b.mul (b.inv.mul pose) = pose := by
  rw [← Iso.mul_assoc b b.inv pose hb (Iso.inv_unit b hb), Iso.mul_inv_cancel b hb, Iso.one_mul]

theorem Iso.mul_eq_iff_eq_mul_inv {a t pose : Iso ℝ} (ha : a.q.normSq = 1) (ht : t.q.normSq = 1)
    (hp : pose.q.normSq = 1) : a.mul t = pose ↔ a = pose.mul t.inv :=
  ⟨fun h => by rw [← h, Iso.mul_inv_cancel_right ha ht], fun h => by rw [h, Iso.inv_mul_cancel_right ht hp]⟩

theorem Iso.mul_eq_iff_eq_inv_mul {b a pose : Iso ℝ} (hb : b.q.normSq = 1) :
    b.mul a = pose ↔ a = b.inv.mul pose :=
  ⟨fun h => by rw [← h, Iso.inv_mul_cancel_left a hb], fun h => by rw [h, Iso.mul_inv_cancel_left pose hb]⟩

theorem Iso.Same.mul_of_mul_inv {a t pose : Iso ℝ} (ha : a.q.normSq = 1) (ht : t.q.normSq = 1)
    (hp : pose.q.normSq = 1) (h : Iso.Same a (pose.mul t.inv)) : Iso.Same (a.mul t) pose :=
  Iso.inv_mul_cancel_right ht hp ▸ h.mul_right t ha (Iso.mul_unit _ _ hp (Iso.inv_unit t ht))

theorem Iso.Same.mul_of_inv_mul {b a pose : Iso ℝ} (hb : b.q.normSq = 1)
    (h : Iso.Same a (b.inv.mul pose)) : Iso.Same (b.mul a) pose :=
  Iso.mul_inv_cancel_left pose hb ▸ h.mul_left b

theorem Iso.mul_mul_mul_assoc (a b c t : Iso ℝ) (ha : a.q.normSq = 1) (hb : b.q.normSq = 1)
    (hc : c.q.normSq = 1) : (a.mul (b.mul c)).mul t = a.mul (b.mul (c.mul t)) := by
  rw [Iso.mul_assoc a _ t ha (Iso.mul_unit b c hb hc), Iso.mul_assoc b c t hb hc]

end Opw
