/-
  Angles modulo whole turns, over `ℝ`.  The code brings an angle next to a target in several ways
  (the inline normalisation loops modelled as `normPi`, `normalize_near`, `inside_bounds`,
  `compute_centers`); each returns a representative
  `x + 2πk`, and what is proved of them rests on one fact: a non-zero whole number of turns is at least
  `2π` long (`two_pi_le_abs_turn`).  Hence a representative within `π` of the target is a nearest one
  (`abs_le_abs_add_turn`), and two representatives less than `2π` apart coincide (`turn_eq_zero`).
  Besides `Opw.Angle` the file declares into `Opw.Wrist` (`TurnEq`) and `Opw.IkComplete`
  (`eq_of_turnEq_of_abs`): the IK files, the property files and the documents cite them under those names.
-/
import OpwVerif.Real
namespace Opw.Angle
open Real

theorem floorRem_nonneg (x : ℝ) {y : ℝ} (hy : 0 < y) : 0 ≤ x - y * ⌊x / y⌋ :=
  sub_nonneg.2 ((le_div_iff₀' hy).1 (Int.floor_le (x / y)))

theorem floorRem_lt (x : ℝ) {y : ℝ} (hy : 0 < y) : x - y * ⌊x / y⌋ < y := by
  have := (div_lt_iff₀' hy).1 (Int.lt_floor_add_one (x / y))
  rw [mul_add, mul_one] at this
  exact sub_lt_iff_lt_add'.2 this

/-- `fmod` truncates towards zero; for a non-negative quotient that is the floor -/
theorem nfmod_of_nonneg {x y : ℝ} (h : 0 ≤ x / y) : nfmod x y = x - y * ⌊x / y⌋ :=
  if_pos h

/-- Rust `f64::rem_euclid` over ℝ, positive modulus: the floor remainder, whichever `fmod` branch is
taken.  For a negative quotient `q`, `fmod` gives the ceiling remainder `r ≤ 0`; `r < 0` is corrected
by `+ |y|`, and then `⌊q⌋ = ⌈q⌉ − 1`; `r = 0` means that `q` is whole, `⌊q⌋ = ⌈q⌉`. -/
theorem remEuclid_real (v : ℝ) {y : ℝ} (hy : 0 < y) : remEuclid v y = v - y * ⌊v / y⌋ := by
  show (if nfmod v y < ((0 : ℕ) : ℝ) then nfmod v y + |y| else nfmod v y) = _
  rw [Nat.cast_zero, abs_of_pos hy]
  by_cases hq : 0 ≤ v / y
  · rw [nfmod_of_nonneg hq, if_neg (not_lt.2 (floorRem_nonneg v hy))]
  · rw [show nfmod v y = v - y * ⌈v / y⌉ from if_neg hq]
    split_ifs with hr
    · have hf : ⌊v / y⌋ = ⌈v / y⌉ - 1 := by
        rw [Int.floor_eq_iff, Int.cast_sub, Int.cast_one, sub_add_cancel]
        exact ⟨(sub_lt_iff_lt_add.2 (Int.ceil_lt_add_one (v / y))).le,
          (div_lt_iff₀' hy).2 (sub_neg.1 hr)⟩
      rw [hf, Int.cast_sub, Int.cast_one, mul_sub, mul_one, sub_sub_eq_add_sub, sub_add_eq_add_sub]
    · rw [Int.floor_eq_iff.2 ⟨(le_div_iff₀' hy).2 (sub_nonneg.1 (not_lt.1 hr)),
        (Int.le_ceil _).trans_lt (lt_add_one _)⟩]

theorem two_pi_le_abs_turn {k : ℤ} (hk : k ≠ 0) : 2 * π ≤ |2 * π * k| := by
  have h1 : (1 : ℝ) ≤ |(k : ℝ)| := by
    rw [← Int.cast_abs, ← Int.cast_one, Int.cast_le]
    exact Int.one_le_abs hk
  rw [abs_mul, abs_of_pos two_pi_pos]
  exact le_mul_of_one_le_right two_pi_pos.le h1

theorem turn_eq_zero {k : ℤ} (h : |2 * π * k| < 2 * π) : k = 0 :=
  by_contra fun hk => absurd (two_pi_le_abs_turn hk) (not_le.2 h)

/-- within `π` of `0` no other representative is nearer: it is at least `2π − |r| ≥ π` away -/
theorem abs_le_abs_add_turn {r : ℝ} (h : |r| ≤ π) (k : ℤ) : |r| ≤ |r + 2 * π * k| := by
  rcases eq_or_ne k 0 with rfl | hk
  · rw [Int.cast_zero, mul_zero, add_zero]
  · have h1 := two_pi_le_abs_turn hk
    have h2 := abs_sub (r + 2 * π * k) r
    rw [add_sub_cancel_left] at h2
    linarith

theorem abs_sub_turn_lt_iff (u : ℝ) : |u - 2 * π| < |u| ↔ π < u := by
  -- compare squares: `(u − 2π)² − u² = −((u − 2π + u) · 2π)`, negative iff `2π < u + u`
  rw [← sq_lt_sq, ← sub_neg, sq_sub_sq, sub_sub_cancel_left, mul_neg, neg_lt_zero,
    mul_pos_iff_of_pos_right two_pi_pos, sub_add_eq_add_sub, sub_pos, ← two_mul,
    mul_lt_mul_iff_right₀ two_pos]

theorem abs_add_turn_lt_iff (u : ℝ) : |u + 2 * π| < |u| ↔ u < -π := by
  rw [← abs_neg, ← abs_neg u, neg_add, ← sub_eq_add_neg, abs_sub_turn_lt_iff, lt_neg]

/-! ### The band `∃ k : ℤ, |x − kπ| < thr` around the multiples of `π` -/

theorem band_shift (x thr : ℝ) (j : ℤ) :
    (∃ k : ℤ, |x + j * π - k * π| < thr) ↔ ∃ k : ℤ, |x - k * π| < thr :=
  -- reindex `k ↦ k + j`
  (Equiv.addRight j).surjective.exists.trans <| exists_congr fun k => by
    rw [Equiv.coe_addRight, Int.cast_add, add_mul, add_sub_add_right_eq_sub]

/-- for `n` in `[0, 2π)` the band is the three tests of `is_close_to_multiple_of_pi`: a multiple `kπ`
with `k ≤ 0` is no nearer than `0`, one with `k ≥ 2` no nearer than `2π` -/
theorem band_iff_of_mem {n thr : ℝ} (hn0 : 0 ≤ n) (hn1 : n < 2 * π) :
    (∃ k : ℤ, |n - k * π| < thr) ↔ (n < thr ∨ 2 * π - n < thr ∨ |π - n| < thr) := by
  constructor
  · rintro ⟨k, hk⟩
    rcases lt_trichotomy k 1 with h | rfl | h
    · have h' : (k : ℝ) ≤ 0 := Int.cast_nonpos.mpr (Int.lt_add_one_iff.mp h)
      have : n ≤ n - k * π := (le_sub_self_iff n).2 (mul_nonpos_of_nonpos_of_nonneg h' pi_pos.le)
      exact Or.inl (this.trans_lt ((le_abs_self _).trans_lt hk))
    · right; right; rwa [Int.cast_one, one_mul, abs_sub_comm] at hk
    · have h' : (2 : ℝ) ≤ k := Int.cast_ofNat (R := ℝ) 2 ▸ Int.cast_le.mpr h
      have : 2 * π - n ≤ k * π - n := sub_le_sub_right (mul_le_mul_of_nonneg_right h' pi_pos.le) n
      rw [abs_sub_comm] at hk
      exact Or.inr (Or.inl (this.trans_lt ((le_abs_self _).trans_lt hk)))
  · rintro (h | h | h)
    · exact ⟨0, by rwa [Int.cast_zero, zero_mul, sub_zero, abs_of_nonneg hn0]⟩
    · exact ⟨2, by rwa [Int.cast_ofNat, abs_sub_comm, abs_of_pos (sub_pos.mpr hn1)]⟩
    · exact ⟨1, by rwa [Int.cast_one, one_mul, abs_sub_comm]⟩

theorem band_floorRem (v thr : ℝ) :
    (∃ k : ℤ, |v - k * π| < thr) ↔
      ∃ k : ℤ, |v - 2 * π * ⌊v / (2 * π)⌋ - k * π| < thr := by
  rw [← band_shift (v - 2 * π * ⌊v / (2 * π)⌋) thr (2 * ⌊v / (2 * π)⌋), Int.cast_mul,
    Int.cast_ofNat, mul_right_comm 2 _ π, sub_add_cancel]

theorem abs_sin_sub_int_mul_pi (x : ℝ) (k : ℤ) : |sin (x - k * π)| = |sin x| := by
  rw [sin_sub_int_mul_pi, abs_mul, abs_zpow, abs_neg, abs_one, one_zpow, one_mul]

theorem abs_sub_round_mul_pi (x : ℝ) : |x - round (x / π) * π| ≤ π / 2 := by
  have e : x - round (x / π) * π = (x / π - round (x / π)) * π := by
    rw [sub_mul, div_mul_cancel₀ _ pi_ne_zero]
  rw [e, abs_mul, abs_of_pos pi_pos]
  exact (mul_le_mul_of_nonneg_right (abs_sub_round _) pi_pos.le).trans_eq
    (one_div_mul_eq_div 2 π)

theorem band_iff_sin (x thr : ℝ) (h0 : 0 < thr) (h1 : thr < π / 2) :
    (∃ k : ℤ, |x - k * π| < thr) ↔ |sin x| < sin thr := by
  have hneg : -(π / 2) ≤ 0 := neg_nonpos.2 (half_pos pi_pos).le
  -- for a multiple of π at most `π/2` away, `|sin x| = sin |x − kπ|`, and `sin` is strictly
  -- increasing on `[−π/2, π/2]`
  have key : ∀ k : ℤ, |x - k * π| ≤ π / 2 → (|sin x| < sin thr ↔ |x - k * π| < thr) := by
    intro k hy
    rw [← abs_sin_sub_int_mul_pi x k,
      abs_sin_eq_sin_abs_of_abs_le_pi (hy.trans (half_le_self pi_pos.le))]
    exact strictMonoOn_sin.lt_iff_lt ⟨hneg.trans (abs_nonneg _), hy⟩ ⟨hneg.trans h0.le, h1.le⟩
  exact ⟨fun ⟨k, hk⟩ => (key k (hk.le.trans h1.le)).mpr hk,
    fun h => ⟨_, (key _ (abs_sub_round_mul_pi x)).mp h⟩⟩

theorem abs_cos_lt_one {x : ℝ} (h : sin x ≠ 0) : |cos x| < 1 :=
  lt_of_le_of_ne (abs_cos_le_one x) fun e =>
    h (sin_eq_zero_iff_cos_eq.mpr ((abs_eq one_pos.le).mp e))

end Opw.Angle

namespace Opw.Wrist

def TurnEq (a b : ℝ) : Prop := ∃ k : ℤ, a = b + 2 * Real.pi * k

theorem TurnEq.refl (a : ℝ) : TurnEq a a := ⟨0, by rw [Int.cast_zero, mul_zero, add_zero]⟩
theorem TurnEq.of_eq {a b : ℝ} (h : a = b) : TurnEq a b := h ▸ TurnEq.refl a
theorem TurnEq.symm {a b : ℝ} : TurnEq a b → TurnEq b a := by
  rintro ⟨k, hk⟩; exact ⟨-k, by rw [hk, Int.cast_neg, mul_neg, add_neg_cancel_right]⟩
theorem TurnEq.trans {a b c : ℝ} : TurnEq a b → TurnEq b c → TurnEq a c := by
  rintro ⟨k, hk⟩ ⟨j, hj⟩; exact ⟨j + k, by rw [hk, hj, Int.cast_add, mul_add, add_assoc]⟩
theorem TurnEq.neg {a b : ℝ} : TurnEq a b → TurnEq (-a) (-b) := by
  rintro ⟨k, hk⟩; exact ⟨-k, by rw [hk, Int.cast_neg, mul_neg, neg_add]⟩
theorem TurnEq.add_const {a b : ℝ} (c : ℝ) : TurnEq a b → TurnEq (a + c) (b + c) := by
  rintro ⟨k, hk⟩; exact ⟨k, by rw [hk, add_right_comm]⟩
theorem TurnEq.sub_const {a b : ℝ} (c : ℝ) : TurnEq a b → TurnEq (a - c) (b - c) := by
  rintro ⟨k, hk⟩; exact ⟨k, by rw [hk, add_sub_right_comm]⟩
theorem TurnEq.mul_int {a b s : ℝ} (hs : ∃ n : ℤ, s = n) : TurnEq a b → TurnEq (a * s) (b * s) := by
  obtain ⟨n, rfl⟩ := hs
  rintro ⟨k, hk⟩
  exact ⟨k * n, by rw [hk, Int.cast_mul, add_mul, mul_assoc]⟩
theorem TurnEq.mul_sign {a b s : ℝ} (hs : s = 1 ∨ s = -1) : TurnEq a b → TurnEq (a * s) (b * s) := by
  rcases hs with rfl | rfl
  · exact TurnEq.mul_int ⟨1, Int.cast_one.symm⟩
  · exact TurnEq.mul_int ⟨-1, by rw [Int.cast_neg, Int.cast_one]⟩
theorem TurnEq.add_turn (a : ℝ) (k : ℤ) : TurnEq (a + 2 * Real.pi * k) a := ⟨k, rfl⟩

theorem TurnEq.sin_eq {a b : ℝ} : TurnEq a b → Real.sin a = Real.sin b := by
  rintro ⟨k, hk⟩
  rw [hk, mul_comm, Real.sin_add_int_mul_two_pi]
theorem TurnEq.cos_eq {a b : ℝ} : TurnEq a b → Real.cos a = Real.cos b := by
  rintro ⟨k, hk⟩
  rw [hk, mul_comm, Real.cos_add_int_mul_two_pi]
theorem TurnEq.add {a b c d : ℝ} : TurnEq a b → TurnEq c d → TurnEq (a + c) (b + d) := by
  rintro ⟨k, hk⟩ ⟨j, hj⟩
  exact ⟨k + j, by rw [hk, hj, Int.cast_add, mul_add, add_add_add_comm]⟩

theorem TurnEq.congr_right {a b c : ℝ} (h : TurnEq a b) (e : b = c) : TurnEq a c := e ▸ h
theorem TurnEq.congr_left {a b c : ℝ} (h : TurnEq a b) (e : a = c) : TurnEq c b := e ▸ h

theorem not_turnEq_of_sub {a b : ℝ} (h0 : 0 < a - b) (h1 : a - b < 2 * Real.pi) : ¬ TurnEq a b := by
  rintro ⟨k, rfl⟩
  rw [add_sub_cancel_left] at h0 h1
  rw [Angle.turn_eq_zero (k := k) (by rwa [abs_of_pos h0]), Int.cast_zero, mul_zero] at h0
  exact lt_irrefl _ h0

theorem not_turnEq_add_pi (a : ℝ) : ¬ TurnEq a (a + Real.pi) := fun h => by
  refine not_turnEq_of_sub (a := a + Real.pi) (b := a) ?_ ?_ h.symm
  · rw [add_sub_cancel_left]; exact Real.pi_pos
  · rw [add_sub_cancel_left]; exact lt_two_mul_self Real.pi_pos

theorem elbow_pair_distinct {t ψ : ℝ} (h : 0 < t ∧ t < Real.pi) : ¬ TurnEq (t - ψ) (-t - ψ) :=
  not_turnEq_of_sub (by linarith [h.1]) (by linarith [h.2])

/-- `A − G` and `A + G − π` are `π − 2G` apart, which lies in `(0, 2π)` for `|G| < π/2` -/
theorem not_turnEq_sub_add (A : ℝ) {G : ℝ} (h : |G| < Real.pi / 2) :
    ¬ TurnEq (A - G) (A + G - Real.pi) := by
  rw [abs_lt] at h
  apply not_turnEq_of_sub
  · linear_combination 2 * h.2
  · linear_combination 2 * h.1

/-- two congruent angles, one in `[−π, π]`, the other in `(−π, π)`, are less than a turn apart -/
theorem _root_.Opw.IkComplete.eq_of_turnEq_of_abs {a b : ℝ} (h : TurnEq a b) (ha : |a| ≤ Real.pi)
    (hb : |b| < Real.pi) : a = b := by
  obtain ⟨k, rfl⟩ := h
  have h2 := abs_sub (b + 2 * Real.pi * k) b
  rw [add_sub_cancel_left] at h2
  have h3 : |2 * Real.pi * k| < 2 * Real.pi :=
    (h2.trans_lt (add_lt_add_of_le_of_lt ha hb)).trans_eq (two_mul Real.pi).symm
  rw [Angle.turn_eq_zero h3, Int.cast_zero, mul_zero, add_zero]

end Opw.Wrist
