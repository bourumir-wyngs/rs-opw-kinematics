/-
  The quaternion link chain of `forward_with_joint_poses` equals the matrix-form reference chain
  (`rot1..rot6`, `org1..org6` of `Fk.lean`), every link rotation is a unit quaternion, and
  `forward` (closed form + `from_rotation_matrix`) is the last link.
-/
import OpwVerif.Lemmas.Fk
import OpwVerif.Lemmas.OfMat
namespace Opw

/-- a link: unit quaternion whose matrix is `r`, translation `o` -/
structure LinkIs (l : Iso ℝ) (r : M3 ℝ) (o : V3 ℝ) : Prop where
  unit : l.q.normSq = 1
  rot : l.q.toMat = r
  org : l.t = o

theorem LinkIs.step {l : Iso ℝ} {r : M3 ℝ} {o : V3 ℝ} (h : LinkIs l r o) (d : V3 ℝ) {q : Quat ℝ}
    {m : M3 ℝ} (hq : q.normSq = 1) (hm : q.toMat = m) :
    LinkIs (l.mul ⟨d, q⟩) (r.mul m) (o.add (r.mulVec d)) := by
  refine ⟨Iso.mul_unit l ⟨d, q⟩ h.unit hq, ?_, ?_⟩
  · rw [Iso.mul, Quat.toMat_mul, h.rot, hm]
  · rw [Iso.mul, Quat.rotate_eq_mulVec l.q h.unit, h.rot, h.org]

noncomputable def lnk1 (p : Params ℝ) (q : J6 ℝ) : Iso ℝ := ⟨⟨0, 0, p.c1⟩, Quat.rotZ q.j1⟩
noncomputable def lnk2 (p : Params ℝ) (q : J6 ℝ) : Iso ℝ := (lnk1 p q).mul ⟨⟨p.a1, p.b, 0⟩, Quat.rotY q.j2⟩
noncomputable def lnk3 (p : Params ℝ) (q : J6 ℝ) : Iso ℝ := (lnk2 p q).mul ⟨⟨0, 0, p.c2⟩, Quat.rotY q.j3⟩
noncomputable def lnk4 (p : Params ℝ) (q : J6 ℝ) : Iso ℝ := (lnk3 p q).mul ⟨⟨p.a2, 0, 0⟩, Quat.rotZ q.j4⟩
noncomputable def lnk5 (p : Params ℝ) (q : J6 ℝ) : Iso ℝ := (lnk4 p q).mul ⟨⟨0, 0, p.c3⟩, Quat.rotY q.j5⟩
noncomputable def lnk6 (p : Params ℝ) (q : J6 ℝ) : Iso ℝ := (lnk5 p q).mul ⟨⟨0, 0, p.c4⟩, Quat.rotZ q.j6⟩

/-- the model's link list, with the generic literals normalised -/
theorem chainTheta_eq (p : Params ℝ) (q : J6 ℝ) :
    chainTheta p q = [lnk1 p q, lnk2 p q, lnk3 p q, lnk4 p q, lnk5 p q, lnk6 p q] := by
  simp only [chainTheta, lnk1, lnk2, lnk3, lnk4, lnk5, lnk6, lit0]

theorem lnk1_is (p : Params ℝ) (q : J6 ℝ) : LinkIs (lnk1 p q) (rot1 q) (org1 p q) :=
  ⟨Quat.normSq_rotZ _, Quat.toMat_rotZ _, rfl⟩
theorem lnk2_is (p : Params ℝ) (q : J6 ℝ) : LinkIs (lnk2 p q) (rot2 q) (org2 p q) :=
  (lnk1_is p q).step ⟨p.a1, p.b, 0⟩ (Quat.normSq_rotY _) (Quat.toMat_rotY _)
theorem lnk3_is (p : Params ℝ) (q : J6 ℝ) : LinkIs (lnk3 p q) (rot3 q) (org3 p q) :=
  (lnk2_is p q).step ⟨0, 0, p.c2⟩ (Quat.normSq_rotY _) (Quat.toMat_rotY _)
theorem lnk4_is (p : Params ℝ) (q : J6 ℝ) : LinkIs (lnk4 p q) (rot4 q) (org4 p q) :=
  (lnk3_is p q).step ⟨p.a2, 0, 0⟩ (Quat.normSq_rotZ _) (Quat.toMat_rotZ _)
theorem lnk5_is (p : Params ℝ) (q : J6 ℝ) : LinkIs (lnk5 p q) (rot5 q) (org5 p q) :=
  (lnk4_is p q).step ⟨0, 0, p.c3⟩ (Quat.normSq_rotY _) (Quat.toMat_rotY _)
theorem lnk6_is (p : Params ℝ) (q : J6 ℝ) : LinkIs (lnk6 p q) (rot6 q) (org6 p q) :=
  (lnk5_is p q).step ⟨0, 0, p.c4⟩ (Quat.normSq_rotZ _) (Quat.toMat_rotZ _)

theorem chainTheta_links (p : Params ℝ) (q : J6 ℝ) :
    ∃ l1 l2 l3 l4 l5 l6, chainTheta p q = [l1, l2, l3, l4, l5, l6] ∧
      LinkIs l1 (rot1 q) (org1 p q) ∧ LinkIs l2 (rot2 q) (org2 p q) ∧ LinkIs l3 (rot3 q) (org3 p q) ∧
      LinkIs l4 (rot4 q) (org4 p q) ∧ LinkIs l5 (rot5 q) (org5 p q) ∧ LinkIs l6 (rot6 q) (org6 p q) :=
  ⟨_, _, _, _, _, _, chainTheta_eq p q, lnk1_is p q, lnk2_is p q, lnk3_is p q, lnk4_is p q, lnk5_is p q, lnk6_is p q⟩

theorem IsRot_rot1 (q : J6 ℝ) : IsRot (rot1 q) := IsRot_rz _
theorem IsRot_rot2 (q : J6 ℝ) : IsRot (rot2 q) := (IsRot_rot1 q).mul (IsRot_ry _)
theorem IsRot_rot3 (q : J6 ℝ) : IsRot (rot3 q) := (IsRot_rot2 q).mul (IsRot_ry _)
theorem IsRot_rot4 (q : J6 ℝ) : IsRot (rot4 q) := (IsRot_rot3 q).mul (IsRot_rz _)
theorem IsRot_rot5 (q : J6 ℝ) : IsRot (rot5 q) := (IsRot_rot4 q).mul (IsRot_ry _)
theorem IsRot_rot6 (q : J6 ℝ) : IsRot (rot6 q) := (IsRot_rot5 q).mul (IsRot_rz _)

theorem forwardTheta_last_link (p : Params ℝ) (q : J6 ℝ) :
    ∃ l6, (chainTheta p q)[5]? = some l6 ∧
      (forwardTheta p q).2 = l6.t ∧ (Quat.ofMat (forwardTheta p q).1).toMat = l6.q.toMat ∧
      (Quat.ofMat (forwardTheta p q).1).normSq = 1 ∧ l6.q.normSq = 1 := by
  obtain ⟨l1, l2, l3, l4, l5, l6, hc, -, -, -, -, -, h6⟩ := chainTheta_links p q
  refine ⟨l6, by rw [hc]; rfl, ?_, ?_, ?_, h6.unit⟩
  · rw [forwardTheta_tr, h6.org]
  · rw [forwardTheta_rot, Quat.toMat_ofMat _ (IsRot_rot6 q), h6.rot]
  · rw [forwardTheta_rot]; exact Quat.normSq_ofMat _ (IsRot_rot6 q)

theorem forward_toMat (p : Params ℝ) (j : J6 ℝ) : (forward p j).q.toMat = rot6 (thetaOf p j) := by
  rw [C02.forward_eq, forwardTheta_rot]; exact Quat.toMat_ofMat _ (IsRot_rot6 _)

theorem forward_t (p : Params ℝ) (j : J6 ℝ) : (forward p j).t = org6 p (thetaOf p j) := by
  rw [C02.forward_eq]; exact forwardTheta_tr p _

theorem forward_unit (p : Params ℝ) (j : J6 ℝ) : (forward p j).q.normSq = 1 := by
  rw [C02.forward_eq, forwardTheta_rot]; exact Quat.normSq_ofMat _ (IsRot_rot6 _)

end Opw
