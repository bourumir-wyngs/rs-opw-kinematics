/-
  Helper lemmas for C13 (`dual_rrt_connect`, model in `Rrt.lean`).  The model's functions are rewritten
  once in the vocabulary `push` / `extNew` / `loopBody`; `StepHyp` says which predicates on trees the
  planner keeps, and the tree invariant, the edge bound and the box are instances.  First the generic
  part (any number type `R`), trees before the planner; then the reading at `ℝ`.
-/
import OpwVerif.Rrt
import OpwVerif.Real

namespace Opw.RrtInv

section Generic
variable {R : Type}

-- the trees: nothing about them uses the arithmetic or the order of `R`, hence no instance yet

/-- parent index stored in vertex `i` (the model reads `vertices[i].parent_index`) -/
def parentOf (t : RTree R) (i : Nat) : Option Nat := (t.vertices.getD i ⟨none, []⟩).parent

/-- the tree `t` with one more vertex `⟨some p, q⟩` (`Tree::add_vertex` + `add_edge`) -/
def push (t : RTree R) (p : Nat) (q : Cfg R) : RTree R :=
  { t with vertices := t.vertices ++ [⟨some p, q⟩] }

/-- all that is used of the nearest-neighbour search (the k-d tree of the source, `nearestIdx` in the
model): it answers with a vertex of the tree -/
def ValidNearest (nearest : RTree R → Cfg R → Nat) : Prop :=
  ∀ t q, t.vertices ≠ [] → nearest t q < t.vertices.length

/-- what `add_vertex` / `add_edge` keep: vertex 0 is the root, parents come before their children, and
only the root was never tested by `isFree` -/
structure TreeInv (isFree : Cfg R → Bool) (root : Cfg R) (t : RTree R) : Prop where
  nonempty : t.vertices ≠ []
  root_parent : parentOf t 0 = none
  root_data : t.get 0 = root
  parent_lt : ∀ i, 1 ≤ i → i < t.vertices.length → ∃ p, parentOf t i = some p ∧ p < i
  free : ∀ i, 1 ≤ i → i < t.vertices.length → isFree (t.get i) = true

@[simp] theorem push_length (t : RTree R) (p : Nat) (q : Cfg R) :
    (push t p q).vertices.length = t.vertices.length + 1 := by
  simp [push]

theorem lt_push_length {t : RTree R} {p : Nat} {q : Cfg R} {i : Nat}
    (h : i < (push t p q).vertices.length) : i < t.vertices.length ∨ i = t.vertices.length := by
  rw [push_length] at h; exact Nat.lt_succ_iff_lt_or_eq.1 h

theorem getD_push_lt (t : RTree R) (p : Nat) (q : Cfg R) {i : Nat} (h : i < t.vertices.length)
    (d : RNode R) : (push t p q).vertices.getD i d = t.vertices.getD i d := by
  simp only [push, List.getD_eq_getElem?_getD, List.getElem?_append_left h]

theorem getD_push_last (t : RTree R) (p : Nat) (q : Cfg R) (d : RNode R) :
    (push t p q).vertices.getD t.vertices.length d = ⟨some p, q⟩ := by
  simp only [push, List.getD_eq_getElem?_getD, List.getElem?_concat_length, Option.getD_some]

theorem get_push_lt (t : RTree R) (p : Nat) (q : Cfg R) {i : Nat} (h : i < t.vertices.length) :
    (push t p q).get i = t.get i := congrArg RNode.data (getD_push_lt t p q h _)

theorem get_push_last (t : RTree R) (p : Nat) (q : Cfg R) :
    (push t p q).get t.vertices.length = q := congrArg RNode.data (getD_push_last t p q _)

theorem parentOf_push_lt (t : RTree R) (p : Nat) (q : Cfg R) {i : Nat} (h : i < t.vertices.length) :
    parentOf (push t p q) i = parentOf t i := congrArg RNode.parent (getD_push_lt t p q h _)

theorem parentOf_push_last (t : RTree R) (p : Nat) (q : Cfg R) :
    parentOf (push t p q) t.vertices.length = some p :=
  congrArg RNode.parent (getD_push_last t p q _)

section TreeInv
variable {isFree : Cfg R → Bool} {root : Cfg R} {t : RTree R}

theorem TreeInv.length_pos (h : TreeInv isFree root t) : 0 < t.vertices.length :=
  List.length_pos_iff.mpr h.nonempty

theorem TreeInv.lt_of_parentOf (h : TreeInv isFree root t) {i p : Nat} (hi : i < t.vertices.length)
    (hp : parentOf t i = some p) : p < i := by
  rcases Nat.eq_zero_or_pos i with rfl | h1
  · rw [h.root_parent] at hp; cases hp
  · obtain ⟨p', e, hlt⟩ := h.parent_lt i h1 hi
    rw [e] at hp; cases hp; exact hlt

theorem TreeInv.init (isFree : Cfg R → Bool) (root : Cfg R) (b : Bool) :
    TreeInv isFree root ⟨[⟨none, root⟩], b⟩ where
  nonempty := by simp
  root_parent := rfl
  root_data := rfl
  parent_lt := fun i h1 h2 => absurd (Nat.lt_one_iff.1 h2) (Nat.ne_of_gt h1)
  free := fun i h1 h2 => absurd (Nat.lt_one_iff.1 h2) (Nat.ne_of_gt h1)

theorem TreeInv.push (h : TreeInv isFree root t) {p : Nat} {q : Cfg R} (hp : p < t.vertices.length)
    (hq : isFree q = true) : TreeInv isFree root (push t p q) where
  nonempty := by simp [RrtInv.push]
  root_parent := by rw [parentOf_push_lt t p q h.length_pos]; exact h.root_parent
  root_data := by rw [get_push_lt t p q h.length_pos]; exact h.root_data
  parent_lt := by
    intro i h1 h2
    rcases lt_push_length h2 with hi | rfl
    · rw [parentOf_push_lt t p q hi]; exact h.parent_lt i h1 hi
    · exact ⟨p, parentOf_push_last t p q, hp⟩
  free := by
    intro i h1 h2
    rcases lt_push_length h2 with hi | rfl
    · rw [get_push_lt t p q hi]; exact h.free i h1 hi
    · rw [get_push_last]; exact hq

end TreeInv

theorem untilRoot_of_some {t : RTree R} {i p : Nat} (fuel : Nat) (h : parentOf t i = some p) :
    untilRoot t (fuel + 1) i = t.get p :: untilRoot t fuel p := by
  rw [untilRoot]; unfold parentOf at h; rw [h]

theorem untilRoot_of_none {t : RTree R} {i : Nat} (fuel : Nat) (h : parentOf t i = none) :
    untilRoot t fuel i = [] := by
  cases fuel with
  | zero => rfl
  | succ f => rw [untilRoot]; unfold parentOf at h; rw [h]

theorem untilRoot_head? {t : RTree R} {fuel i : Nat} {x : Cfg R}
    (h : (untilRoot t fuel i).head? = some x) : ∃ p, parentOf t i = some p ∧ x = t.get p := by
  cases hp : parentOf t i with
  | none => rw [untilRoot_of_none fuel hp] at h; cases h
  | some p =>
    cases fuel with
    | zero => cases h
    | succ fuel => rw [untilRoot_of_some fuel hp] at h; cases h; exact ⟨p, rfl, rfl⟩

theorem untilRoot_decomp {isFree : Cfg R → Bool} {root : Cfg R} {t : RTree R}
    (h : TreeInv isFree root t) : ∀ (fuel i : Nat), 1 ≤ i → i < t.vertices.length → i ≤ fuel →
      ∃ l, untilRoot t fuel i = l ++ [root] ∧
        ∀ q ∈ l, ∃ j, 1 ≤ j ∧ j < t.vertices.length ∧ q = t.get j := by
  intro fuel
  induction fuel with
  | zero => intro i h1 _ h3; exact absurd (h1.trans h3) (Nat.not_succ_le_zero 0)
  | succ fuel ih =>
    intro i h1 h2 h3
    obtain ⟨p, hp, hlt⟩ := h.parent_lt i h1 h2
    rw [untilRoot_of_some fuel hp]
    rcases Nat.eq_zero_or_pos p with rfl | hp0
    · rw [untilRoot_of_none fuel h.root_parent, h.root_data]
      exact ⟨[], rfl, nofun⟩
    · obtain ⟨l, hl, hmem⟩ := ih p hp0 (hlt.trans h2) (Nat.le_of_lt_succ (hlt.trans_le h3))
      refine ⟨t.get p :: l, by rw [hl]; rfl, ?_⟩
      intro q hq
      rcases List.mem_cons.mp hq with rfl | hq
      · exact ⟨p, hp0, hlt.trans h2, rfl⟩
      · exact hmem q hq

/-- the list returned when the connect step reaches: ancestors of the new vertex of tree a
(reversed), then ancestors of the reaching vertex of tree b; reversed if tree b is the start tree -/
def joinPath (ta' tb' : RTree R) (ni ri : Nat) : List (Cfg R) :=
  if tb'.isStart = true then
    ((untilRoot ta' ta'.vertices.length ni).reverse ++ untilRoot tb' tb'.vertices.length ri).reverse
  else (untilRoot ta' ta'.vertices.length ni).reverse ++ untilRoot tb' tb'.vertices.length ri

theorem mem_joinPath {ta tb : RTree R} {ni ri : Nat} {q : Cfg R} :
    q ∈ joinPath ta tb ni ri ↔
      q ∈ untilRoot ta ta.vertices.length ni ∨ q ∈ untilRoot tb tb.vertices.length ri := by
  unfold joinPath
  split <;> simp only [List.mem_reverse, List.mem_append]

/-- a property of every configuration stored in the tree (joint count, limits): it holds as long as
`extend` only adds vertices that have it -/
def AllV (P : Cfg R → Prop) (t : RTree R) : Prop := ∀ i, i < t.vertices.length → P (t.get i)

theorem AllV.push {P : Cfg R → Prop} {t : RTree R} (h : AllV P t) (p : Nat) {q : Cfg R} (hq : P q) :
    AllV P (push t p q) := by
  intro i hi
  rcases lt_push_length hi with hlt | rfl
  · rw [get_push_lt t p q hlt]; exact h i hlt
  · rw [get_push_last]; exact hq

theorem AllV.init (P : Cfg R → Prop) (root : Cfg R) (b : Bool) (h : P root) :
    AllV P ⟨[⟨none, root⟩], b⟩ := by
  intro i hi
  obtain rfl := Nat.lt_one_iff.1 hi
  exact h

theorem untilRoot_forall {P : Cfg R → Prop} {isFree : Cfg R → Bool} {root : Cfg R} {t : RTree R}
    (h : TreeInv isFree root t) (pt : AllV P t) {i : Nat} (h1 : 1 ≤ i)
    (h2 : i + 1 = t.vertices.length) : ∀ q ∈ untilRoot t t.vertices.length i, P q := by
  intro q hq
  obtain ⟨l, hl, hmem⟩ := untilRoot_decomp h t.vertices.length i h1
    (Nat.lt_of_succ_le h2.le) (Nat.le_of_succ_le h2.le)
  rw [hl, List.mem_append, List.mem_singleton] at hq
  rcases hq with hq | rfl
  · obtain ⟨j, -, j2, rfl⟩ := hmem q hq
    exact pt j j2
  · exact h.root_data ▸ pt 0 h.length_pos

theorem joinPath_forall {P : Cfg R → Prop} {isFree : Cfg R → Bool} {ra rb : Cfg R} {ta tb : RTree R}
    (ha : TreeInv isFree ra ta) (hb : TreeInv isFree rb tb) (pa : AllV P ta) (pb : AllV P tb)
    {ni ri : Nat} (hn1 : 1 ≤ ni) (hn2 : ni + 1 = ta.vertices.length) (hr1 : 1 ≤ ri)
    (hr2 : ri + 1 = tb.vertices.length) : ∀ q ∈ joinPath ta tb ni ri, P q := fun q hq =>
  (mem_joinPath.mp hq).elim (untilRoot_forall ha pa hn1 hn2 q) (untilRoot_forall hb pb hr1 hr2 q)

/-- every stored configuration has `n` joints; `cfgDist` compares common prefixes and is a metric only
among such lists -/
def DimInv (n : Nat) (t : RTree R) : Prop := AllV (fun q => q.length = n) t

/-- the root a tree must have according to its tag -/
def rootOf (start goal : Cfg R) (t : RTree R) : Cfg R := if t.isStart = true then start else goal

theorem TreeInv.init_start (isFree : Cfg R → Bool) (start goal : Cfg R) :
    TreeInv isFree (rootOf start goal ⟨[⟨none, start⟩], true⟩) ⟨[⟨none, start⟩], true⟩ :=
  TreeInv.init isFree start true

theorem TreeInv.init_goal (isFree : Cfg R → Bool) (start goal : Cfg R) :
    TreeInv isFree (rootOf start goal ⟨[⟨none, goal⟩], false⟩) ⟨[⟨none, goal⟩], false⟩ :=
  TreeInv.init isFree goal false

theorem joinPath_shape {isFree : Cfg R → Bool} {start goal : Cfg R} {ta tb : RTree R}
    (ha : TreeInv isFree (rootOf start goal ta) ta) (hb : TreeInv isFree (rootOf start goal tb) tb)
    (htag : ta.isStart = !tb.isStart) {ni ri : Nat}
    (hn1 : 1 ≤ ni) (hn2 : ni + 1 = ta.vertices.length) (hr1 : 1 ≤ ri)
    (hr2 : ri + 1 = tb.vertices.length) :
    ∃ mid, joinPath ta tb ni ri = start :: mid ++ [goal] ∧ ∀ q ∈ mid, isFree q = true := by
  obtain ⟨la, hla, ma⟩ := untilRoot_decomp ha ta.vertices.length ni hn1
    (Nat.lt_of_succ_le hn2.le) (Nat.le_of_succ_le hn2.le)
  obtain ⟨lb, hlb, mb⟩ := untilRoot_decomp hb tb.vertices.length ri hr1
    (Nat.lt_of_succ_le hr2.le) (Nat.le_of_succ_le hr2.le)
  have fa : ∀ q ∈ la, isFree q = true := fun q hq => by
    obtain ⟨j, j1, j2, rfl⟩ := ma q hq; exact ha.free j j1 j2
  have fb : ∀ q ∈ lb, isFree q = true := fun q hq => by
    obtain ⟨j, j1, j2, rfl⟩ := mb q hq; exact hb.free j j1 j2
  rw [joinPath, hla, hlb]
  unfold rootOf at *
  cases hs : tb.isStart
  · -- tree a is the start tree: its ancestors reversed, then those of tree b
    rw [hs] at htag
    refine ⟨la.reverse ++ lb, by simp [htag], fun q hq => ?_⟩
    exact (List.mem_append.mp hq).elim (fun h => fa q (List.mem_reverse.mp h)) (fb q)
  · rw [hs] at htag
    refine ⟨lb.reverse ++ la, by simp [htag], fun q hq => ?_⟩
    exact (List.mem_append.mp hq).elim (fun h => fb q (List.mem_reverse.mp h)) (fa q)

variable [OpwNum R]
open scoped GenericNum

/-- the configuration `Tree::extend` tries to add -/
def extNew (nearest : RTree R → Cfg R → Nat) (t : RTree R) (target : Cfg R) (ext : R) : Cfg R :=
  if cfgDist target (t.get (nearest t target)) < ext then target
  else ((t.get (nearest t target)).zip target).map
    (fun (near, tg) => near + (tg - near) * ext / cfgDist target (t.get (nearest t target)))

set_option linter.unusedSectionVars false in
@[simp] theorem push_isStart (t : RTree R) (p : Nat) (q : Cfg R) :
    (push t p q).isStart = t.isStart := rfl

theorem nearestIdx_go_some (q : Cfg R) (v : RNode R) (vs : List (RNode R)) (i best : Nat) (b : R) :
    nearestIdx.go q (v :: vs) i best (some b) =
      if sqDist q v.data < b then nearestIdx.go q vs (i + 1) i (some (sqDist q v.data))
      else nearestIdx.go q vs (i + 1) best (some b) := rfl

theorem nearestIdx_go_none (q : Cfg R) (v : RNode R) (vs : List (RNode R)) (i best : Nat) :
    nearestIdx.go q (v :: vs) i best none = nearestIdx.go q vs (i + 1) i (some (sqDist q v.data)) :=
  rfl

/-- the scan answers below `N` if the best index so far and the indices still to come are below `N` -/
theorem nearestIdx_go_lt (q : Cfg R) (vs : List (RNode R)) (i best : Nat) (bd : Option R) {N : Nat}
    (hi : i + vs.length ≤ N) (hb : best < N) : nearestIdx.go q vs i best bd < N := by
  fun_induction nearestIdx.go q vs i best bd with
  | case1 => exact hb
  | case2 v vs i best d ih | case3 v vs i best d b _ ih | case4 v vs i best d b _ ih =>
    rw [List.length_cons] at hi
    exact ih (by omega) (by omega)

theorem nearestIdx_valid : ValidNearest (nearestIdx (R := R)) := fun t q hne =>
  nearestIdx_go_lt q t.vertices 0 0 none (Nat.zero_add _).le (List.length_pos_iff.mpr hne)

theorem extendWith_eq (nearest : RTree R → Cfg R → Nat) (t : RTree R) (target : Cfg R) (ext : R)
    (isFree : Cfg R → Bool) :
    extendWith nearest t target ext isFree =
      if isFree (extNew nearest t target ext) = true then
        (push t (nearest t target) (extNew nearest t target ext),
          if cfgDist (extNew nearest t target ext) target < ext then .reached t.vertices.length
          else .advanced t.vertices.length)
      else (t, .trapped) := by
  rw [apply_ite (Prod.mk _)]
  rfl

theorem connectWith_succ (nearest : RTree R → Cfg R → Nat) (fuel : Nat) (t : RTree R)
    (target : Cfg R) (ext : R) (isFree : Cfg R → Bool) :
    connectWith nearest (fuel + 1) t target ext isFree =
      if isFree (extNew nearest t target ext) = true then
        if cfgDist (extNew nearest t target ext) target < ext then
          (push t (nearest t target) (extNew nearest t target ext), .reached t.vertices.length)
        else connectWith nearest fuel (push t (nearest t target) (extNew nearest t target ext))
          target ext isFree
      else (t, .trapped) := by
  rw [connectWith, extendWith_eq]
  by_cases h1 : isFree (extNew nearest t target ext) = true
  · rw [if_pos h1, if_pos h1]
    by_cases h2 : cfgDist (extNew nearest t target ext) target < ext
    · rw [if_pos h2, if_pos h2]
    · rw [if_neg h2, if_neg h2]
  · rw [if_neg h1, if_neg h1]

section Loop
variable (nearest : RTree R → Cfg R → Nat) (isFree : Cfg R → Bool) (ext : R) (stop : Nat → Bool)

/-- One round of the main loop on the sample `q`: tree a is extended towards `q`; if that adds a
vertex, tree b is connected towards it.  Either the trees meet and the path is returned, or the
loop goes on with the two trees in the order of the recursive call (swapped). -/
def loopBody (ta tb : RTree R) (q : Cfg R) : List (Cfg R) ⊕ RTree R × RTree R :=
  if isFree (extNew nearest ta q ext) = true then
    match connectWith nearest connectFuel tb (extNew nearest ta q ext) ext isFree with
    | (tb', .reached ri) =>
      .inl (joinPath (push ta (nearest ta q) (extNew nearest ta q ext)) tb' ta.vertices.length ri)
    | (tb', _) => .inr (tb', push ta (nearest ta q) (extNew nearest ta q ext))
  else .inr (tb, ta)

theorem dualRrtWith_stop (n i : Nat) (samples : List (Cfg R)) (ta tb : RTree R)
    (h : stop i = true) :
    dualRrtWith nearest isFree ext stop (n + 1) i samples ta tb = .cancelled := by
  unfold dualRrtWith
  exact if_pos h

theorem dualRrtWith_succ (n i : Nat) (samples : List (Cfg R)) (ta tb : RTree R)
    (h : stop i = false) :
    dualRrtWith nearest isFree ext stop (n + 1) i samples ta tb =
      match samples with
      | [] => .failed
      | q :: rest =>
        match loopBody nearest isFree ext ta tb q with
        | .inl p => .path p
        | .inr (a, b) => dualRrtWith nearest isFree ext stop n (i + 1) rest a b := by
  cases samples with
  | nil => rw [dualRrtWith, if_neg (ne_true_of_eq_false h)]
  | cons q rest =>
    rw [dualRrtWith, if_neg (ne_true_of_eq_false h), extendWith_eq]
    dsimp only [loopBody]
    by_cases hf : isFree (extNew nearest ta q ext) = true
    · rw [if_pos hf, if_pos hf]
      -- `reached` and `advanced` are treated alike, and the new vertex is the last one
      by_cases h2 : cfgDist (extNew nearest ta q ext) q < ext
      · rw [if_pos h2]
        dsimp only
        rw [get_push_last]
        rcases connectWith nearest connectFuel tb (extNew nearest ta q ext) ext isFree with ⟨tb', s⟩
        cases s <;> rfl
      · rw [if_neg h2]
        dsimp only
        rw [get_push_last]
        rcases connectWith nearest connectFuel tb (extNew nearest ta q ext) ext isFree with ⟨tb', s⟩
        cases s <;> rfl
    · rw [if_neg hf, if_neg hf]

end Loop

/-! ### Abstract invariant principle

`Inv` is any predicate on trees that is kept by adding the vertex `extend` adds, `Good` any
predicate on targets that holds of the samples and of the vertices of an `Inv`-tree. -/

structure StepHyp (nearest : RTree R → Cfg R → Nat) (isFree : Cfg R → Bool) (ext : R)
    (Inv : RTree R → Prop) (Good : Cfg R → Prop) : Prop where
  ne : ∀ t, Inv t → t.vertices ≠ []
  step : ∀ t target, Inv t → Good target → isFree (extNew nearest t target ext) = true →
    Inv (push t (nearest t target) (extNew nearest t target ext))
  good : ∀ t i, Inv t → i < t.vertices.length → Good (t.get i)

section Abstract
variable {nearest : RTree R → Cfg R → Nat} {isFree : Cfg R → Bool} {ext : R} {stop : Nat → Bool}
  {Inv : RTree R → Prop} {Good : Cfg R → Prop}

theorem extendWith_inv (H : StepHyp nearest isFree ext Inv Good) {t : RTree R} {target : Cfg R}
    (ht : Inv t) (hg : Good target) : Inv (extendWith nearest t target ext isFree).1 := by
  rw [extendWith_eq]
  by_cases h : isFree (extNew nearest t target ext) = true
  · rw [if_pos h]; exact H.step t target ht hg h
  · rw [if_neg h]; exact ht

theorem connectWith_spec (H : StepHyp nearest isFree ext Inv Good) {target : Cfg R}
    (hg : Good target) : ∀ (fuel : Nat) (t : RTree R), Inv t → ∀ (t' : RTree R) (s : ExtendStatus),
      connectWith nearest fuel t target ext isFree = (t', s) →
      Inv t' ∧ t'.isStart = t.isStart ∧ ∀ ri, s = .reached ri →
        1 ≤ ri ∧ ri + 1 = t'.vertices.length ∧ cfgDist (t'.get ri) target < ext := by
  intro fuel
  induction fuel with
  | zero =>
    intro t ht t' s h
    cases h
    exact ⟨ht, rfl, fun ri hri => by cases hri⟩
  | succ fuel ih =>
    intro t ht t' s h
    rw [connectWith_succ] at h
    by_cases h1 : isFree (extNew nearest t target ext) = true
    · rw [if_pos h1] at h
      by_cases h2 : cfgDist (extNew nearest t target ext) target < ext
      · rw [if_pos h2] at h
        cases h
        refine ⟨H.step t target ht hg h1, rfl, ?_⟩
        rintro ri ⟨⟩
        exact ⟨List.length_pos_iff.mpr (H.ne t ht), (push_length _ _ _).symm, by
          rw [get_push_last]; exact h2⟩
      · rw [if_neg h2] at h
        exact ih _ (H.step t target ht hg h1) t' s h
    · rw [if_neg h1] at h
      cases h
      exact ⟨ht, rfl, fun ri hri => by cases hri⟩

theorem loopBody_spec (H : StepHyp nearest isFree ext Inv Good) {ta tb : RTree R} {q : Cfg R}
    (ha : Inv ta) (hb : Inv tb) (hq : Good q) :
    match loopBody nearest isFree ext ta tb q with
    | .inl p => ∃ ta' tb' ni ri, Inv ta' ∧ Inv tb' ∧
        ta'.isStart = ta.isStart ∧ tb'.isStart = tb.isStart ∧
        1 ≤ ni ∧ ni + 1 = ta'.vertices.length ∧ 1 ≤ ri ∧ ri + 1 = tb'.vertices.length ∧
        cfgDist (tb'.get ri) (ta'.get ni) < ext ∧ p = joinPath ta' tb' ni ri
    | .inr (a, b) => Inv a ∧ Inv b ∧ a.isStart = tb.isStart ∧ b.isStart = ta.isStart := by
  unfold loopBody
  split_ifs with hf
  · have ha' := H.step ta q ha hq hf
    have hqn : Good (extNew nearest ta q ext) := by
      have := H.good _ ta.vertices.length ha' (by rw [push_length]; exact Nat.lt_succ_self _)
      rwa [get_push_last] at this
    rcases hc : connectWith nearest connectFuel tb (extNew nearest ta q ext) ext isFree
      with ⟨tb', s⟩
    obtain ⟨hb', hsb, hr⟩ := connectWith_spec H hqn connectFuel tb hb tb' s hc
    cases s with
    | reached ri =>
      obtain ⟨h1, h2, h3⟩ := hr ri rfl
      exact ⟨_, tb', _, ri, ha', hb', rfl, hsb, List.length_pos_iff.mpr (H.ne ta ha),
        (push_length _ _ _).symm, h1, h2, by rw [get_push_last]; exact h3, rfl⟩
    | advanced _ => exact ⟨hb', ha', hsb, rfl⟩
    | trapped => exact ⟨hb', ha', hsb, rfl⟩
  · exact ⟨hb, ha, rfl, rfl⟩

/-- Everything C13 says about a returned path is read off this statement. -/
theorem dualRrtWith_path (H : StepHyp nearest isFree ext Inv Good) :
    ∀ (n i : Nat) (samples : List (Cfg R)) (ta tb : RTree R) (p : List (Cfg R)),
      (∀ q ∈ samples, Good q) → Inv ta → Inv tb →
      dualRrtWith nearest isFree ext stop n i samples ta tb = .path p →
      ∃ ta' tb' ni ri, Inv ta' ∧ Inv tb' ∧
        (ta'.isStart = ta.isStart ∧ tb'.isStart = tb.isStart ∨
          ta'.isStart = tb.isStart ∧ tb'.isStart = ta.isStart) ∧
        1 ≤ ni ∧ ni + 1 = ta'.vertices.length ∧ 1 ≤ ri ∧ ri + 1 = tb'.vertices.length ∧
        cfgDist (tb'.get ri) (ta'.get ni) < ext ∧ p = joinPath ta' tb' ni ri := by
  intro n
  induction n with
  | zero =>
    intro i samples ta tb p _ _ _ h
    cases h  -- without a round the answer is `failed`
  | succ n ih =>
    intro i samples ta tb p hs ha hb h
    cases hstop : stop i with
    | true => rw [dualRrtWith_stop (h := hstop)] at h; cases h
    | false =>
      rw [dualRrtWith_succ (h := hstop)] at h
      cases samples with
      | nil => cases h
      | cons q rest =>
        have hr := loopBody_spec H ha hb (hs q List.mem_cons_self)
        cases hbody : loopBody nearest isFree ext ta tb q with
        | inl p' =>
          simp only [hbody] at h hr
          cases h
          obtain ⟨ta', tb', ni, ri, ia, ib, e1, e2, rest'⟩ := hr
          exact ⟨ta', tb', ni, ri, ia, ib, .inl ⟨e1, e2⟩, rest'⟩
        | inr ab =>
          simp only [hbody] at h hr
          obtain ⟨ia, ib, e1, e2⟩ := hr
          obtain ⟨ta', tb', ni, ri, ia', ib', tags, rest'⟩ :=
            ih _ rest _ _ p (fun q' hq' => hs q' (List.mem_cons_of_mem q hq')) ia ib h
          -- the recursive call has the two trees in the other order
          exact ⟨ta', tb', ni, ri, ia', ib',
            tags.symm.imp (fun t => ⟨t.1.trans e2, t.2.trans e1⟩) (fun t => ⟨t.1.trans e1, t.2.trans e2⟩),
            rest'⟩

end Abstract

section Cancel
variable (nearest : RTree R → Cfg R → Nat) (isFree : Cfg R → Bool) (ext : R) (stop : Nat → Bool)

theorem dualRrtWith_path_of_stop_add : ∀ (n i : Nat) (samples : List (Cfg R)) (ta tb : RTree R)
    (p : List (Cfg R)) (m : Nat), stop (i + m) = true →
    dualRrtWith nearest isFree ext stop n i samples ta tb = .path p →
    dualRrtWith nearest isFree ext stop m i samples ta tb = .path p := by
  intro n
  induction n with
  | zero =>
    intro i samples ta tb p m _ h
    cases h  -- without a round the answer is `failed`
  | succ n ih =>
    intro i samples ta tb p m hm h
    cases hstop : stop i with
    | true => rw [dualRrtWith_stop (h := hstop)] at h; cases h
    | false =>
      cases m with
      | zero => rw [Nat.add_zero, hstop] at hm; cases hm
      | succ m =>
        rw [dualRrtWith_succ (h := hstop)] at h ⊢
        cases samples with
        | nil => cases h
        | cons q rest =>
          cases hbody : loopBody nearest isFree ext ta tb q with
          | inl p' => simp only [hbody] at h ⊢; exact h
          | inr ab =>
            simp only [hbody] at h ⊢
            exact ih _ _ _ _ p m (by rwa [Nat.add_right_comm]) h

end Cancel

theorem extNew_length (nearest : RTree R → Cfg R → Nat) (t : RTree R) (target : Cfg R) (ext : R)
    {n : Nat} (h1 : (t.get (nearest t target)).length = n) (h2 : target.length = n) :
    (extNew nearest t target ext).length = n := by
  unfold extNew
  split
  · exact h2
  · rw [List.length_map, List.length_zip, h1, h2, Nat.min_self]

/-- `rt t` is the root tree `t` must have: a constant, or `rootOf start goal` (the root demanded by the
tag); `hrt`: it is not changed by `push`.  The same two arguments in `stepHyp_gap`, `stepHyp_box`. -/
theorem stepHyp_tree {nearest : RTree R → Cfg R → Nat} (hn : ValidNearest nearest)
    (isFree : Cfg R → Bool) (ext : R) (rt : RTree R → Cfg R)
    (hrt : ∀ t p q, rt (push t p q) = rt t) :
    StepHyp nearest isFree ext (fun t => TreeInv isFree (rt t) t) (fun _ => True) where
  ne := fun _ h => h.nonempty
  step := fun t target h _ hf => by
    rw [hrt]; exact h.push (hn t target h.nonempty) hf
  good := fun _ _ _ _ => trivial

end Generic

section RealPart

/-- sum of squared differences over the common prefix of two lists -/
def sumSq : List ℝ → List ℝ → ℝ
  | x :: a, y :: b => (x - y) ^ 2 + sumSq a b
  | [], _ => 0
  | _ :: _, [] => 0

theorem sqDist_foldl (a b : List ℝ) (acc : ℝ) :
    (a.zip b).foldl (fun acc (p : ℝ × ℝ) => acc + (p.1 - p.2) * (p.1 - p.2)) acc = acc + sumSq a b := by
  fun_induction sumSq a b generalizing acc with
  | case1 x a y b ih => rw [List.zip_cons_cons, List.foldl_cons, ih]; ring
  | case2 | case3 => simp

theorem sqDist_eq (a b : List ℝ) : sqDist a b = sumSq a b := by
  show (a.zip b).foldl _ ((0 : ℕ) : ℝ) = _
  rw [Nat.cast_zero, sqDist_foldl, zero_add]

theorem cfgDist_eq (a b : List ℝ) : cfgDist a b = Real.sqrt (sumSq a b) := by
  show Real.sqrt (sqDist a b) = _
  rw [sqDist_eq]

theorem sumSq_nonneg (a b : List ℝ) : 0 ≤ sumSq a b := by
  fun_induction sumSq a b with
  | case1 x a y b ih => exact add_nonneg (sq_nonneg _) ih
  | case2 | case3 => exact le_rfl

theorem sumSq_nil_right (a : List ℝ) : sumSq a [] = 0 := by
  cases a <;> rfl

theorem sumSq_comm (a b : List ℝ) : sumSq a b = sumSq b a := by
  fun_induction sumSq a b with
  | case1 x a y b ih => rw [sumSq, ih]; ring
  | case2 b => exact (sumSq_nil_right b).symm
  | case3 => rfl

theorem sumSq_self (a : List ℝ) : sumSq a a = 0 := by
  induction a with
  | nil => rfl
  | cons x a ih => rw [sumSq, ih]; ring

theorem cfgDist_nonneg (a b : List ℝ) : 0 ≤ cfgDist a b := by
  rw [cfgDist_eq]; exact Real.sqrt_nonneg _

theorem cfgDist_comm (a b : List ℝ) : cfgDist a b = cfgDist b a := by
  rw [cfgDist_eq, cfgDist_eq, sumSq_comm]

theorem cfgDist_self (a : List ℝ) : cfgDist a a = 0 := by
  rw [cfgDist_eq, sumSq_self, Real.sqrt_zero]

/-- two-dimensional Minkowski inequality: the triangle inequality of `ℂ`.  (The exponents carry their
type: left to the default, each square is slow to elaborate.) -/
theorem mink2 (u v P Q : ℝ) :
    Real.sqrt ((u + v) ^ (2 : ℕ) + (P + Q) ^ (2 : ℕ)) ≤
      Real.sqrt (u ^ (2 : ℕ) + P ^ (2 : ℕ)) + Real.sqrt (v ^ (2 : ℕ) + Q ^ (2 : ℕ)) := by
  have := norm_add_le (⟨u, P⟩ : ℂ) ⟨v, Q⟩
  rwa [Complex.norm_eq_sqrt_sq_add_sq, Complex.norm_eq_sqrt_sq_add_sq,
    Complex.norm_eq_sqrt_sq_add_sq] at this

theorem cfgDist_triangle : ∀ (a b c : List ℝ), a.length = b.length → b.length = c.length →
    cfgDist a c ≤ cfgDist a b + cfgDist b c
  | [], b, c, _, _ => by
    rw [cfgDist_eq [] c]
    simp only [sumSq, Real.sqrt_zero]
    exact add_nonneg (cfgDist_nonneg _ _) (cfgDist_nonneg _ _)
  | x :: a, y :: b, z :: c, hab, hbc => by
    have IH := cfgDist_triangle a b c (Nat.succ.inj hab) (Nat.succ.inj hbc)
    rw [cfgDist_eq, cfgDist_eq, cfgDist_eq] at IH ⊢
    -- the heads and the distances of the tails are the two coordinates of `mink2`
    have hS := (Real.sqrt_le_left (add_nonneg (Real.sqrt_nonneg _) (Real.sqrt_nonneg _))).1 IH
    have := mink2 (x - y) (y - z) (Real.sqrt (sumSq a b)) (Real.sqrt (sumSq b c))
    rw [Real.sq_sqrt (sumSq_nonneg a b), Real.sq_sqrt (sumSq_nonneg b c), sub_add_sub_cancel] at this
    exact (Real.sqrt_le_sqrt (add_le_add le_rfl hS)).trans this

theorem sumSq_scale (e d : ℝ) (nq tg : List ℝ) :
    sumSq nq ((nq.zip tg).map (fun (p : ℝ × ℝ) => p.1 + (p.2 - p.1) * e / d)) =
      (e / d) ^ 2 * sumSq tg nq := by
  fun_induction sumSq tg nq with
  | case1 y tg x nq ih => rw [List.zip_cons_cons, List.map_cons, sumSq, ih]; ring
  | case2 nq => rw [List.zip_nil_right, List.map_nil, sumSq_nil_right, mul_zero]
  | case3 => simp [sumSq]

section Ext
variable (nearest : RTree ℝ → Cfg ℝ → Nat) (t : RTree ℝ) (target : Cfg ℝ) (ext : ℝ)

theorem extNew_real :
    extNew nearest t target ext =
      if cfgDist target (t.get (nearest t target)) < ext then target
      else ((t.get (nearest t target)).zip target).map
        (fun (p : ℝ × ℝ) => p.1 + (p.2 - p.1) * ext / cfgDist target (t.get (nearest t target))) :=
  rfl

theorem extNew_edge (hext : 0 < ext) :
    cfgDist (t.get (nearest t target)) (extNew nearest t target ext) ≤ ext := by
  rw [extNew_real]
  split
  · next h => rw [cfgDist_comm]; exact le_of_lt h
  · next h =>
    have hd : ext ≤ cfgDist target (t.get (nearest t target)) := not_lt.mp h
    have hdpos : 0 < cfgDist target (t.get (nearest t target)) := lt_of_lt_of_le hext hd
    rw [cfgDist_eq _ (List.map _ _), sumSq_scale]
    have hsq : sumSq target (t.get (nearest t target)) =
        cfgDist target (t.get (nearest t target)) ^ 2 := by
      rw [cfgDist_eq, Real.sq_sqrt (sumSq_nonneg _ _)]
    rw [hsq, ← mul_pow, div_mul_cancel₀ _ (ne_of_gt hdpos), Real.sqrt_sq (le_of_lt hext)]

end Ext

/-- `extend` never attaches a vertex farther than one step `ext` from its parent -/
def EdgeInv (ext : ℝ) (t : RTree ℝ) : Prop :=
  ∀ i p, i < t.vertices.length → parentOf t i = some p → cfgDist (t.get p) (t.get i) ≤ ext

theorem EdgeInv.init (ext : ℝ) (root : Cfg ℝ) (b : Bool) : EdgeInv ext ⟨[⟨none, root⟩], b⟩ := by
  intro i p hi hp
  obtain rfl := Nat.lt_one_iff.1 hi
  cases hp

theorem EdgeInv.push {isFree : Cfg ℝ → Bool} {root : Cfg ℝ} {ext : ℝ} {t : RTree ℝ}
    (ht : TreeInv isFree root t) (h : EdgeInv ext t) {p : Nat} {q : Cfg ℝ}
    (hp : p < t.vertices.length) (hq : cfgDist (t.get p) q ≤ ext) : EdgeInv ext (push t p q) := by
  intro i p' hi hp'
  rcases lt_push_length hi with hlt | rfl
  · rw [parentOf_push_lt t p q hlt] at hp'
    have := ht.lt_of_parentOf hlt hp'
    rw [get_push_lt t p q hlt, get_push_lt t p q (this.trans hlt)]
    exact h i p' hlt hp'
  · rw [parentOf_push_last] at hp'
    cases hp'
    rw [get_push_last, get_push_lt t p q hp]
    exact hq

theorem untilRoot_chain {isFree : Cfg ℝ → Bool} {root : Cfg ℝ} {ext : ℝ} {t : RTree ℝ}
    (ht : TreeInv isFree root t) (h : EdgeInv ext t) : ∀ (fuel i : Nat), i < t.vertices.length →
      List.IsChain (fun a b => cfgDist a b ≤ ext) (t.get i :: untilRoot t fuel i) := by
  intro fuel
  induction fuel with
  | zero => intro i _; exact List.isChain_singleton _
  | succ fuel ih =>
    intro i hi
    cases hpar : parentOf t i with
    | none => rw [untilRoot_of_none _ hpar]; exact List.isChain_singleton _
    | some p =>
      rw [untilRoot_of_some _ hpar]
      have := ht.lt_of_parentOf hi hpar
      refine List.isChain_cons_cons.mpr ⟨?_, ih p (this.trans hi)⟩
      rw [cfgDist_comm]; exact h i p hi hpar

theorem isChain_symm_reverse {r : Cfg ℝ → Cfg ℝ → Prop} (hr : ∀ a b, r a b → r b a)
    {l : List (Cfg ℝ)} (h : List.IsChain r l) : List.IsChain r l.reverse :=
  List.isChain_reverse.mpr (h.imp fun a b hab => hr a b hab)

theorem join_chain {isFree : Cfg ℝ → Bool} {ra rb : Cfg ℝ} {ext : ℝ} {n : Nat} {ta tb : RTree ℝ}
    (hext : 0 < ext)
    (ha : TreeInv isFree ra ta) (hb : TreeInv isFree rb tb)
    (ea : EdgeInv ext ta) (eb : EdgeInv ext tb) (da : DimInv n ta) (db : DimInv n tb)
    {ni ri : Nat} (hn : ni < ta.vertices.length) (hr : ri < tb.vertices.length)
    (hjoin : cfgDist (tb.get ri) (ta.get ni) < ext) :
    List.IsChain (fun a b => cfgDist a b ≤ 3 * ext) (joinPath ta tb ni ri) := by
  have hsymm : ∀ a b : Cfg ℝ, cfgDist a b ≤ 3 * ext → cfgDist b a ≤ 3 * ext :=
    fun a b h => by rw [cfgDist_comm]; exact h
  have hweak : ∀ ⦃a b : Cfg ℝ⦄, cfgDist a b ≤ ext → cfgDist a b ≤ 3 * ext :=
    fun a b h => h.trans (le_mul_of_one_le_left hext.le (by norm_num))
  have key : List.IsChain (fun a b => cfgDist a b ≤ 3 * ext)
      ((untilRoot ta ta.vertices.length ni).reverse ++ untilRoot tb tb.vertices.length ri) := by
    refine List.IsChain.append
      (isChain_symm_reverse hsymm ((untilRoot_chain ha ea _ ni hn).tail.imp hweak))
      ((untilRoot_chain hb eb _ ri hr).tail.imp hweak) ?_
    -- the junction: parent of the new vertex → new vertex → reaching vertex → its parent;
    -- all four are vertices, hence have `n` components
    intro x hx y hy
    rw [List.getLast?_reverse] at hx
    obtain ⟨pa, hpa, rfl⟩ := untilRoot_head? hx
    obtain ⟨pb, hpb, rfl⟩ := untilRoot_head? hy
    have la := da pa ((ha.lt_of_parentOf hn hpa).trans hn)
    have lb := db pb ((hb.lt_of_parentOf hr hpb).trans hr)
    have t1 := cfgDist_triangle (ta.get pa) (ta.get ni) (tb.get pb) (la.trans (da ni hn).symm)
      ((da ni hn).trans lb.symm)
    have t2 := cfgDist_triangle (ta.get ni) (tb.get ri) (tb.get pb) ((da ni hn).trans (db ri hr).symm)
      ((db ri hr).trans lb.symm)
    have d1 := ea ni pa hn hpa
    have d2 := eb ri pb hr hpb
    rw [cfgDist_comm] at hjoin d2
    linarith only [t1, t2, d1, d2, hjoin]
  unfold joinPath
  split
  · exact isChain_symm_reverse hsymm key
  · exact key

/-- componentwise `lo ≤ q ≤ hi` (all three lists of the same length) -/
def InBox (lo hi q : List ℝ) : Prop := List.Forall₂ (· ≤ ·) lo q ∧ List.Forall₂ (· ≤ ·) q hi

theorem le_lerp {l x y c : ℝ} (hx : l ≤ x) (hy : l ≤ y) (h0 : 0 ≤ c) (h1 : c ≤ 1) :
    l ≤ x + (y - x) * c := by
  have := add_le_add (mul_le_mul_of_nonneg_left hx (sub_nonneg.2 h1)) (mul_le_mul_of_nonneg_left hy h0)
  linarith

theorem lerp_le {u x y c : ℝ} (hx : x ≤ u) (hy : y ≤ u) (h0 : 0 ≤ c) (h1 : c ≤ 1) :
    x + (y - x) * c ≤ u := by
  have := le_lerp (neg_le_neg hx) (neg_le_neg hy) h0 h1
  linarith

theorem forall₂_zip_map {r : ℝ → ℝ → Prop} {g : ℝ × ℝ → ℝ}
    (hg : ∀ l x y, r l x → r l y → r l (g (x, y))) {l a b : List ℝ}
    (ha : List.Forall₂ r l a) (hb : List.Forall₂ r l b) : List.Forall₂ r l ((a.zip b).map g) := by
  induction ha generalizing b with
  | nil => cases hb; exact .nil
  | cons hx _ ih =>
    cases hb with
    | cons hy hb => exact .cons (hg _ _ _ hx hy) (ih hb)

theorem extNew_inBox (nearest : RTree ℝ → Cfg ℝ → Nat) (t : RTree ℝ) (target : Cfg ℝ) {ext : ℝ}
    (hext : 0 < ext) {lo hi : List ℝ} (hn : InBox lo hi (t.get (nearest t target)))
    (ht : InBox lo hi target) : InBox lo hi (extNew nearest t target ext) := by
  rw [extNew_real]
  split
  · exact ht
  · next h =>
    have hd : ext ≤ cfgDist target (t.get (nearest t target)) := not_lt.mp h
    have hdpos : 0 < cfgDist target (t.get (nearest t target)) := lt_of_lt_of_le hext hd
    have h0 : 0 ≤ ext / cfgDist target (t.get (nearest t target)) := le_of_lt (div_pos hext hdpos)
    have h1 : ext / cfgDist target (t.get (nearest t target)) ≤ 1 := (div_le_one hdpos).mpr hd
    refine ⟨forall₂_zip_map (fun l x y hx hy => ?_) hn.1 ht.1,
      (forall₂_zip_map (r := (· ≥ ·)) (fun u x y hx hy => ?_) hn.2.flip ht.2.flip).flip⟩
    · show l ≤ x + (y - x) * ext / _
      rw [mul_div_assoc]; exact le_lerp hx hy h0 h1
    · show x + (y - x) * ext / _ ≤ u
      rw [mul_div_assoc]; exact lerp_le hx hy h0 h1

theorem stepHyp_gap {nearest : RTree ℝ → Cfg ℝ → Nat} (hn : ValidNearest nearest)
    (isFree : Cfg ℝ → Bool) {ext : ℝ} (hext : 0 < ext) (n : Nat) (rt : RTree ℝ → Cfg ℝ)
    (hrt : ∀ t p q, rt (push t p q) = rt t) :
    StepHyp nearest isFree ext
      (fun t => TreeInv isFree (rt t) t ∧ DimInv n t ∧ EdgeInv ext t) (fun q => q.length = n) where
  ne := fun _ h => h.1.nonempty
  step := fun t target h hg hf => by
    have hv := hn t target h.1.nonempty
    refine ⟨by rw [hrt]; exact h.1.push hv hf, ?_, ?_⟩
    · exact AllV.push h.2.1 _ (extNew_length nearest t target ext (h.2.1 _ hv) hg)
    · exact EdgeInv.push h.1 h.2.2 hv (extNew_edge nearest t target ext hext)
  good := fun t i h hi => h.2.1 i hi

theorem stepHyp_box {nearest : RTree ℝ → Cfg ℝ → Nat} (hn : ValidNearest nearest)
    (isFree : Cfg ℝ → Bool) {ext : ℝ} (hext : 0 < ext) (lo hi : List ℝ) (rt : RTree ℝ → Cfg ℝ)
    (hrt : ∀ t p q, rt (push t p q) = rt t) :
    StepHyp nearest isFree ext
      (fun t => TreeInv isFree (rt t) t ∧ AllV (InBox lo hi) t) (InBox lo hi) where
  ne := fun _ h => h.1.nonempty
  step := fun t target h hg hf => by
    have hv := hn t target h.1.nonempty
    refine ⟨by rw [hrt]; exact h.1.push hv hf, ?_⟩
    exact AllV.push h.2 _ (extNew_inBox nearest t target hext (h.2 _ hv) hg)
  good := fun t i h hi => h.2 i hi

end RealPart
end Opw.RrtInv
