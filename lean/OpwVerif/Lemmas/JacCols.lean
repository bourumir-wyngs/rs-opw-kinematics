/-
  The numeric Jacobian of a forward map, column by column, against the geometric Jacobian
  (axis × lever arm, axis), over ℝ.  Three notions carry it: `Moved E o …` (a frame moved by the
  rotation `E` about the point `o`; it propagates down a chain, through a tool and through a base),
  `axisRot a φ` (the rotation by `φ` about a unit axis: Rodrigues' formula, its derivative, the
  finite-difference error, and `φ · a` as the scaled axis of its quaternion), and
  `Revolute fwd j i a o s` (adding `e` to joint `i` moves the pose `fwd j` by `axisRot a (e · s)`
  about `o`), from which the columns of `jacobianColumn` follow for any forward map.  The robot is
  the instance `forward_revolute`; the joint index `i` is 0-based, as in `jacobianColumn`.
-/
import OpwVerif.Lemmas.MiscReal
import OpwVerif.Lemmas.Chain
import Mathlib.Analysis.Real.Pi.Bounds
namespace Opw.JacCols

/-- the local y axis -/
def ey : V3 ℝ := ⟨0, 1, 0⟩
/-- the local z axis (ordinary real literals) -/
def ez : V3 ℝ := ⟨0, 0, 1⟩

theorem ez_eq : (V3.ez : V3 ℝ) = ez := by
  apply V3.ext' <;> simp only [V3.ez, ez, lit0, lit1]

theorem V3.sub_self_add (o t : V3 ℝ) : o.add (t.sub o) = t := by
  simp only [V3.add, V3.sub]
  apply V3.ext' <;> ring

/-- conjugate of `r` by `a`: `a r aᵀ` -/
noncomputable def conj (a r : M3 ℝ) : M3 ℝ := (a.mul r).mul a.transpose

theorem conj_mul_mul {a : M3 ℝ} (ha : a.transpose.mul a = M3.one) (r m : M3 ℝ) :
    (conj a r).mul (a.mul m) = a.mul (r.mul m) := by
  unfold conj
  rw [M3.mul_assoc (a.mul r), ← M3.mul_assoc a.transpose, ha, M3.one_mul, M3.mul_assoc]

theorem conj_one_left (r : M3 ℝ) : conj M3.one r = r := by
  unfold conj; rw [M3.one_mul, M3.transpose_one, M3.mul_one]

theorem conj_conj (b a r : M3 ℝ) : conj b (conj a r) = conj (b.mul a) r := by
  unfold conj
  rw [M3.transpose_mul]
  simp only [M3.mul_assoc]

theorem conj_mulVec (b r : M3 ℝ) (v : V3 ℝ) :
    (conj b r).mulVec v = b.mulVec (r.mulVec (b.transpose.mulVec v)) := by
  unfold conj
  rw [M3.mulVec_mulVec, M3.mulVec_mulVec]

/-- link pose `(r', t')` is link pose `(r, t)` moved by the rotation `E` about the point `o` -/
structure Moved (E : M3 ℝ) (o : V3 ℝ) (r : M3 ℝ) (t : V3 ℝ) (r' : M3 ℝ) (t' : V3 ℝ) : Prop where
  rot : r' = E.mul r
  org : t' = o.add (E.mulVec (t.sub o))

/-- the next link (same local rotation `m`, same offset `d`) is moved in the same way -/
theorem Moved.step {E : M3 ℝ} {o : V3 ℝ} {r : M3 ℝ} {t : V3 ℝ} {r' : M3 ℝ} {t' : V3 ℝ}
    (h : Moved E o r t r' t') (m : M3 ℝ) (d : V3 ℝ) :
    Moved E o (r.mul m) (t.add (r.mulVec d)) (r'.mul m) (t'.add (r'.mulVec d)) := by
  refine ⟨?_, ?_⟩
  · rw [h.rot, M3.mul_assoc]
  · rw [h.rot, h.org, M3.mulVec_mulVec, V3.add_sub_right, M3.mulVec_add, V3.add_assoc]

/-- the joint's own link: the frame before it is `a`, its origin `o` is unchanged, its rotation goes
from `a · R(θ)` to `a · (R(ε) · R(θ))` -/
theorem Moved.self {a : M3 ℝ} (ha : a.transpose.mul a = M3.one) (re rt : M3 ℝ) (o : V3 ℝ) :
    Moved (conj a re) o (a.mul rt) o (a.mul (re.mul rt)) o := by
  refine ⟨(conj_mul_mul ha re rt).symm, ?_⟩
  rw [V3.sub_eq_add_neg, V3.add_neg, M3.mulVec_zero, V3.add_zero]

/-- pose `F'` is pose `F` moved by the rotation `E` about the point `o`:
`R' = E R`, `t' = o + E (t − o)` -/
def PoseMoved (E : M3 ℝ) (o : V3 ℝ) (F F' : Iso ℝ) : Prop :=
  Moved E o F.q.toMat F.t F'.q.toMat F'.t

/-- a tool (or frame) applied on the right: same rotation, same centre, longer lever arm -/
theorem PoseMoved.tool {E : M3 ℝ} {o : V3 ℝ} {F F' : Iso ℝ} (h : PoseMoved E o F F')
    (hF : F.q.normSq = 1) (hF' : F'.q.normSq = 1) (t : Iso ℝ) :
    PoseMoved E o (F.mul t) (F'.mul t) := by
  show Moved E o (F.q.mul t.q).toMat (F.t.add (F.q.rotate t.t)) (F'.q.mul t.q).toMat
    (F'.t.add (F'.q.rotate t.t))
  rw [Quat.toMat_mul, Quat.toMat_mul, Quat.rotate_eq_mulVec _ hF, Quat.rotate_eq_mulVec _ hF']
  exact Moved.step h t.q.toMat t.t

/-- a base applied on the left: the rotation is conjugated by the base rotation, the centre is moved
by the base -/
theorem PoseMoved.base {E : M3 ℝ} {o : V3 ℝ} {F F' : Iso ℝ} (h : PoseMoved E o F F')
    (b : Iso ℝ) (hb : b.q.normSq = 1) :
    PoseMoved (conj b.q.toMat E) (b.transformPoint o) (b.mul F) (b.mul F') := by
  have hR := IsRot_toMat b.q hb
  obtain ⟨hrot, horg⟩ := h
  refine ⟨?_, ?_⟩
  · show (b.q.mul F'.q).toMat = (conj b.q.toMat E).mul (b.q.mul F.q).toMat
    rw [Quat.toMat_mul, Quat.toMat_mul, hrot, conj_mul_mul hR.tm]
  · show b.t.add (b.q.rotate F'.t) =
      ((b.q.rotate o).add b.t).add ((conj b.q.toMat E).mulVec
        ((b.t.add (b.q.rotate F.t)).sub ((b.q.rotate o).add b.t)))
    rw [Quat.rotate_eq_mulVec _ hb, Quat.rotate_eq_mulVec _ hb, Quat.rotate_eq_mulVec _ hb, horg,
      V3.add_sub_add_cancel, ← M3.mulVec_sub, conj_mulVec, ← M3.mulVec_mulVec b.q.toMat.transpose,
      hR.tm, M3.one_mulVec, M3.mulVec_add, ← V3.add_assoc, V3.add_comm b.t]

theorem PoseMoved.rel {E : M3 ℝ} {o : V3 ℝ} {F F' : Iso ℝ} (h : PoseMoved E o F F')
    (hF : F.q.normSq = 1) (hF' : F'.q.normSq = 1) :
    (F'.q.mul F.q.conj).toMat = E ∧ (F'.q.mul F.q.conj).normSq = 1 := by
  refine ⟨?_, Quat.normSq_mul_unit _ _ hF' (Quat.normSq_conj_unit _ hF)⟩
  rw [Quat.toMat_mul, Quat.toMat_conj, h.rot, M3.mul_assoc, (IsRot_toMat F.q hF).mt, M3.mul_one]

/-- the quaternion `(cos h, sin h · a)`: for a unit axis `a`, the rotation by `2h` about `a` -/
noncomputable def axisQuat (a : V3 ℝ) (h : ℝ) : Quat ℝ :=
  ⟨Real.cos h, a.x * Real.sin h, a.y * Real.sin h, a.z * Real.sin h⟩

theorem rotZ_eq_axisQuat (φ : ℝ) : Quat.rotZ φ = axisQuat ez (φ / 2) := by
  rw [Quat.rotZ_eq]
  simp only [axisQuat, ez]
  apply Quat.ext' <;> ring

theorem rotY_eq_axisQuat (φ : ℝ) : Quat.rotY φ = axisQuat ey (φ / 2) := by
  rw [Quat.rotY_eq]
  simp only [axisQuat, ey]
  apply Quat.ext' <;> ring

theorem normSq_axisQuat (a : V3 ℝ) (ha : a.normSq = 1) (h : ℝ) : (axisQuat a h).normSq = 1 := by
  rw [V3.normSq_eq] at ha
  have h1 := Real.sin_sq_add_cos_sq h
  simp only [axisQuat, Quat.normSq]
  linear_combination h1 + (Real.sin h) ^ 2 * ha

theorem axisQuat_add (a : V3 ℝ) (ha : a.normSq = 1) (h k : ℝ) :
    axisQuat a (h + k) = (axisQuat a k).mul (axisQuat a h) := by
  rw [V3.normSq_eq] at ha
  simp only [axisQuat, Quat.mul, Real.sin_add, Real.cos_add]
  apply Quat.ext'
  · linear_combination (Real.sin h * Real.sin k) * ha
  · ring
  · ring
  · ring

theorem conj_axisQuat (q : Quat ℝ) (hq : q.normSq = 1) (a : V3 ℝ) (h : ℝ) :
    (q.mul (axisQuat a h)).mul q.conj = axisQuat (q.toMat.mulVec a) h := by
  rw [Quat.normSq_eq] at hq
  simp only [Quat.mul, Quat.conj, axisQuat, Quat.toMat, M3.mulVec, lit2]
  apply Quat.ext'
  · linear_combination (Real.cos h) * hq
  · ring
  · ring
  · ring

/-- the rotation by `φ` about the unit axis `a` -/
noncomputable def axisRot (a : V3 ℝ) (φ : ℝ) : M3 ℝ := (axisQuat a (φ / 2)).toMat

theorem IsRot_axisRot {a : V3 ℝ} (ha : a.normSq = 1) (φ : ℝ) : IsRot (axisRot a φ) :=
  IsRot_toMat _ (normSq_axisQuat a ha _)

theorem axisRot_zero (a : V3 ℝ) : axisRot a 0 = M3.one := by
  have h : axisQuat a (0 / 2) = Quat.one := by
    simp only [axisQuat, Quat.one, zero_div, Real.sin_zero, Real.cos_zero, mul_zero, lit0, lit1]
  unfold axisRot
  rw [h, Quat.toMat_one]

theorem axisRot_add {a : V3 ℝ} (ha : a.normSq = 1) (φ ψ : ℝ) :
    axisRot a (φ + ψ) = (axisRot a ψ).mul (axisRot a φ) := by
  unfold axisRot
  rw [add_div, axisQuat_add a ha, Quat.toMat_mul]

theorem conj_axisRot {A : M3 ℝ} (hA : IsRot A) (a : V3 ℝ) (φ : ℝ) :
    conj A (axisRot a φ) = axisRot (A.mulVec a) φ := by
  obtain ⟨q, hq, rfl⟩ := hA.exists_quat
  unfold conj axisRot
  rw [← conj_axisQuat q hq, Quat.toMat_mul, Quat.toMat_mul, Quat.toMat_conj]

/-- Rodrigues' formula -/
theorem axisRot_mulVec {a : V3 ℝ} (ha : a.normSq = 1) (φ : ℝ) (v : V3 ℝ) :
    (axisRot a φ).mulVec v = (v.add ((a.cross v).scale (Real.sin φ))).add
      ((a.cross (a.cross v)).scale (1 - Real.cos φ)) := by
  have hs := sin_half_double φ
  have hc : 1 - Real.cos φ = 2 * Real.sin (φ / 2) ^ 2 := by
    rw [Real.sin_sq_eq_half_sub, mul_div_cancel₀ φ two_ne_zero]
    ring
  -- `Quat.rotate`, `v + w · 2 u × v + u × (2 u × v)`, is this formula for `u = sin (φ/2) · a`, `w = cos (φ/2)`
  unfold axisRot
  rw [← Quat.rotate_eq_mulVec _ (normSq_axisQuat a ha _), hs, hc]
  simp only [Quat.rotate, Quat.imag, axisQuat, V3.add, V3.scale, V3.cross, lit2]
  apply V3.ext' <;> ring

theorem axisRot_mulVec_axis {a : V3 ℝ} (ha : a.normSq = 1) (φ : ℝ) : (axisRot a φ).mulVec a = a := by
  rw [axisRot_mulVec ha]
  simp only [V3.add, V3.scale, V3.cross]
  apply V3.ext' <;> ring

/-! A component of `E(e s) v` is `x + P sin (e s) + Q (1 − cos (e s))` with `x`, `P`, `Q` the components of
`v`, `a × v`, `a × (a × v)`. -/

theorem hasDerivAt_rodrigues (x P Q s : ℝ) :
    HasDerivAt (fun e : ℝ => x + P * Real.sin (e * s) + Q * (1 - Real.cos (e * s))) (P * s) 0 := by
  have hm : HasDerivAt (fun e : ℝ => e * s) s 0 := hasDerivAt_mul_const s
  have h := ((hm.sin.const_mul P).const_add x).add ((hm.cos.const_sub 1).const_mul Q)
  refine h.congr_deriv ?_
  simp

theorem tendsto_slope_zero {g : ℝ → ℝ} {g' x : ℝ} (h : HasDerivAt g g' 0) (h0 : g 0 = x) :
    Filter.Tendsto (fun e : ℝ => (g e - x) / e) (nhdsWithin 0 {0}ᶜ) (nhds g') := by
  have ht := hasDerivAt_iff_tendsto_slope.mp h
  rw [slope_fun_def_field] at ht
  simpa only [h0, sub_zero] using ht

/-- the finite-difference error of a rotation by the angle `e · s`, per unit of lever arm: from
`|sin x − x| ≤ |x|³/6` and `1 − cos x ≤ x²/2` at `x = e · s`, divided by the step `|e|` -/
noncomputable def fdBound (e s : ℝ) : ℝ := |e| * (s ^ 2 / 2 + |e| * |s| ^ 3 / 6)

theorem abs_sin_sub_le (x : ℝ) : |Real.sin x - x| ≤ |x| ^ 3 / 6 := by
  wlog hx : 0 ≤ x
  · have h := this (-x) (neg_nonneg.mpr (not_le.mp hx).le)
    rwa [Real.sin_neg, abs_neg, neg_sub_neg, abs_sub_comm] at h
  rw [abs_of_nonneg hx, abs_sub_comm, abs_of_nonneg (sub_nonneg.mpr (Real.sin_le hx))]
  exact sub_le_comm.mp (Real.sin_ge_sub_cube hx)

theorem fd_error_bound (x P Q N e s : ℝ) (he : e ≠ 0) (hP : |P| ≤ N) (hQ : |Q| ≤ N) :
    |(x + P * Real.sin (e * s) + Q * (1 - Real.cos (e * s)) - x) / e - P * s| ≤ fdBound e s * N := by
  have h1 := abs_sin_sub_le (e * s)
  have h2 : 0 ≤ 1 - Real.cos (e * s) := sub_nonneg.mpr (Real.cos_le_one _)
  have h3 : 1 - Real.cos (e * s) ≤ |e * s| ^ 2 / 2 := by
    rw [sq_abs]; exact sub_le_comm.mp Real.one_sub_sq_div_two_le_cos
  rw [div_sub' he, abs_div, div_le_iff₀ (abs_pos.mpr he)]
  calc _ = |(Real.sin (e * s) - e * s) * P + (1 - Real.cos (e * s)) * Q| := by congr 1; ring
    _ ≤ |Real.sin (e * s) - e * s| * |P| + (1 - Real.cos (e * s)) * |Q| :=
        (abs_add_le _ _).trans_eq (by rw [abs_mul, abs_mul, abs_of_nonneg h2])
    _ ≤ |e * s| ^ 3 / 6 * N + |e * s| ^ 2 / 2 * N :=
        add_le_add (mul_le_mul h1 hP (abs_nonneg _) ((abs_nonneg _).trans h1))
          (mul_le_mul h3 hQ (abs_nonneg _) (h2.trans h3))
    _ = fdBound e s * N * |e| := by
        rw [fdBound, abs_mul, ← sq_abs s]; ring

theorem abs_mul_sign_lt_pi {e s : ℝ} (hs : s = 1 ∨ s = -1) (he1 : |e| ≤ 1) : |e * s| < Real.pi := by
  rw [abs_mul, (abs_eq zero_le_one).mpr hs, mul_one]
  exact he1.trans_lt ((by norm_num : (1 : ℝ) < 3).trans Real.pi_gt_three)

/-- the usual differencing step `1e-6` meets the step hypotheses: nonzero and at most `1` -/
theorem usual_step : (1e-6 : ℝ) ≠ 0 ∧ |(1e-6 : ℝ)| ≤ 1 :=
  ⟨by norm_num, by rw [abs_of_pos (by norm_num)]; norm_num⟩

theorem fd_error_bound_le {e s N : ℝ} (hs : s = 1 ∨ s = -1) (he1 : |e| ≤ 1) (hN : 0 ≤ N) :
    fdBound e s * N ≤ |e| * N := by
  rw [fdBound, ← sq_abs s, (abs_eq zero_le_one).mpr hs, one_pow, one_pow, mul_one]
  refine mul_le_mul_of_nonneg_right (mul_le_of_le_one_right (abs_nonneg e) ?_) hN
  calc (1 : ℝ) / 2 + |e| / 6 ≤ 1 / 2 + 1 / 6 :=
        add_le_add_right (div_le_div_of_nonneg_right he1 (by norm_num)) _
    _ ≤ 1 := by norm_num

theorem axisRot_hasDerivAt {a : V3 ℝ} (ha : a.normSq = 1) (v : V3 ℝ) (s : ℝ) :
    HasDerivAt (fun e : ℝ => ((axisRot a (e * s)).mulVec v).x) ((a.cross v).scale s).x 0 ∧
    HasDerivAt (fun e : ℝ => ((axisRot a (e * s)).mulVec v).y) ((a.cross v).scale s).y 0 ∧
    HasDerivAt (fun e : ℝ => ((axisRot a (e * s)).mulVec v).z) ((a.cross v).scale s).z 0 := by
  simp only [axisRot_mulVec ha]
  exact ⟨hasDerivAt_rodrigues v.x (a.cross v).x (a.cross (a.cross v)).x s,
    hasDerivAt_rodrigues v.y (a.cross v).y (a.cross (a.cross v)).y s,
    hasDerivAt_rodrigues v.z (a.cross v).z (a.cross (a.cross v)).z s⟩

theorem scaledAxis_neg (q : Quat ℝ) (hw : q.w ≠ 0) : q.neg.scaledAxis = q.scaledAxis := by
  have ha := Quat.angle_neg q
  have hn : q.neg.imag.neg = q.imag := by
    simp only [Quat.neg, Quat.imag, V3.neg, neg_neg]
  unfold Quat.scaledAxis
  simp only [lit0, ha]
  rcases lt_or_gt_of_ne hw with h | h
  · rw [if_pos (show q.neg.w ≥ 0 from neg_nonneg.mpr h.le), if_neg (not_le.mpr h)]
    rfl
  · rw [if_neg (show ¬ q.neg.w ≥ 0 from not_le.mpr (neg_neg_of_pos h)), if_pos h.le, hn]

theorem arg_cos_abs_sin (h : ℝ) (hh : |h| < Real.pi / 2) :
    Complex.arg ⟨Real.cos h, |Real.sin h|⟩ = |h| := by
  have hle : |h| ≤ Real.pi := hh.le.trans (half_le_self Real.pi_pos.le)
  rw [Real.abs_sin_eq_sin_abs_of_abs_le_pi hle, ← Real.cos_abs h,
    Complex.mk_eq_add_mul_I, Complex.ofReal_cos, Complex.ofReal_sin]
  exact Complex.arg_cos_add_sin_mul_I ⟨(neg_neg_of_pos Real.pi_pos).trans_le (abs_nonneg h), hle⟩

/-- For `|h| < π/2` the scalar part `cos h` is positive, so `scaled_axis` does not flip the sign; its angle
is `2 atan2(|sin h|, cos h) = 2|h|`, its axis `sin h / |sin h| · a`, and `sin h`, `h` have the same sign. -/
theorem scaledAxis_axisQuat {a : V3 ℝ} (ha : a.normSq = 1) {h : ℝ} (hh : |h| < Real.pi / 2) :
    (axisQuat a h).scaledAxis = a.scale (2 * h) := by
  obtain ⟨hl, hr⟩ := abs_lt.mp hh
  have hπ : Real.pi / 2 < Real.pi := half_lt_self Real.pi_pos
  have hl' : -Real.pi < h := (neg_lt_neg hπ).trans hl
  have hr' : h < Real.pi := hr.trans hπ
  have hc : 0 < Real.cos h := Real.cos_pos_of_mem_Ioo ⟨hl, hr⟩
  have hw : (axisQuat a h).w = Real.cos h := rfl
  have him : (axisQuat a h).imag = a.scale (Real.sin h) := rfl
  have hsq : (a.scale (Real.sin h)).normSq = Real.sin h * Real.sin h := by
    rw [V3.normSq_eq] at ha ⊢
    simp only [V3.scale]
    linear_combination (Real.sin h * Real.sin h) * ha
  have hang : (axisQuat a h).angle = |h| * 2 := by
    simp only [Quat.angle, natan2_real, nabs_real, lit2]
    rw [him, hw, V3.norm_eq, hsq, ← sq, Real.sqrt_sq_eq_abs, abs_of_pos hc, arg_cos_abs_sin h hh]
  unfold Quat.scaledAxis
  simp only [lit0]
  rw [hw, him, if_pos hc.le, hang, hsq]
  by_cases h0 : Real.sin h = 0
  · have : h = 0 := (Real.sin_eq_zero_iff_of_lt_of_lt hl' hr').mp h0
    rw [h0, this, if_neg (by norm_num)]
    simp only [V3.zero, V3.scale, lit0]
    apply V3.ext' <;> ring
  · -- `sin h` and `h` have the same sign
    have hsign : |Real.sin h| * h = Real.sin h * |h| := by
      rcases le_total 0 h with hp | hp
      · rw [abs_of_nonneg hp, abs_of_nonneg (Real.sin_nonneg_of_nonneg_of_le_pi hp hr'.le)]
      · rw [abs_of_nonpos hp, abs_of_nonpos (Real.sin_nonpos_of_nonpos_of_neg_pi_le hp hl'.le)]
        ring
    have hne : |Real.sin h| ≠ 0 := abs_ne_zero.mpr h0
    have key : Real.sin h / |Real.sin h| * (|h| * 2) = 2 * h := by
      rw [div_mul_eq_mul_div, div_eq_iff hne]
      linear_combination (-2) * hsign
    rw [if_pos (mul_self_pos.mpr h0)]
    simp only [nsqrt_real]
    rw [← sq, Real.sqrt_sq_eq_abs]
    simp only [V3.divs, V3.scale]
    apply V3.ext'
    · linear_combination a.x * key
    · linear_combination a.y * key
    · linear_combination a.z * key

/-- whichever of the two quaternions `± axisQuat a (φ/2)` it is -/
theorem scaledAxis_of_toMat_axisRot (r : Quat ℝ) (hr : r.normSq = 1) {φ : ℝ} (hφ : |φ| < Real.pi)
    {a : V3 ℝ} (ha : a.normSq = 1) (hm : r.toMat = axisRot a φ) : r.scaledAxis = a.scale φ := by
  have hh : |φ / 2| < Real.pi / 2 := by
    rw [abs_div, abs_two]; exact div_lt_div_of_pos_right hφ two_pos
  have hs := scaledAxis_axisQuat ha hh
  rw [mul_div_cancel₀ φ two_ne_zero] at hs
  rcases Quat.eq_or_eq_neg_of_toMat_eq r (axisQuat a (φ / 2)) hr (normSq_axisQuat a ha _) hm with h | h
  · rw [h, hs]
  · rw [h, scaledAxis_neg _ (Real.cos_pos_of_mem_Ioo (abs_lt.mp hh)).ne', hs]

/-- joint `i` of the forward map `fwd` is, at `j`, revolute about the unit axis `a` through the point
`o`, with sign `s`: adding `e` to joint `i` moves the pose by the rotation by `e · s` about `a`
through `o`; all poses carry unit quaternions -/
structure Revolute (fwd : J6 ℝ → Iso ℝ) (j : J6 ℝ) (i : Nat) (a o : V3 ℝ) (s : ℝ) : Prop where
  unit : ∀ q, (fwd q).q.normSq = 1
  axis : a.normSq = 1
  moved : ∀ e, PoseMoved (axisRot a (e * s)) o (fwd j) (fwd (j.set i (j.get i + e)))

namespace Revolute
variable {fwd : J6 ℝ → Iso ℝ} {j : J6 ℝ} {i : Nat} {a o : V3 ℝ} {s : ℝ}

theorem tool (h : Revolute fwd j i a o s) (t : Iso ℝ) (ht : t.q.normSq = 1) :
    Revolute (fun q => (fwd q).mul t) j i a o s :=
  ⟨fun q => Iso.mul_unit _ t (h.unit q) ht, h.axis,
    fun e => (h.moved e).tool (h.unit _) (h.unit _) t⟩

theorem base (h : Revolute fwd j i a o s) (b : Iso ℝ) (hb : b.q.normSq = 1) :
    Revolute (fun q => b.mul (fwd q)) j i (b.q.toMat.mulVec a) (b.transformPoint o) s := by
  have hR := IsRot_toMat b.q hb
  refine ⟨fun q => Iso.mul_unit b _ hb (h.unit q), ?_, fun e => ?_⟩
  · rw [hR.normSq_mulVec, h.axis]
  · rw [← conj_axisRot hR]
    exact (h.moved e).base b hb

theorem lin (h : Revolute fwd j i a o s) (e : ℝ) :
    (jacobianColumn fwd j e i).lin =
      (((axisRot a (e * s)).mulVec ((fwd j).t.sub o)).sub ((fwd j).t.sub o)).divs e := by
  show ((fwd (j.set i (j.get i + e))).t.sub (fwd j).t).divs e = _
  rw [(h.moved e).org]
  simp only [V3.divs, V3.sub, V3.add]
  apply V3.ext' <;> ring

/-- the relative rotation is the rotation by `e · s` about `a`, whose scaled axis is `e · s · a` -/
theorem ang (h : Revolute fwd j i a o s) {e : ℝ} (he : e ≠ 0) (hs : |e * s| < Real.pi) :
    (jacobianColumn fwd j e i).ang = a.scale s := by
  obtain ⟨hm, hu⟩ := (h.moved e).rel (h.unit _) (h.unit _)
  show (((fwd (j.set i (j.get i + e))).q.mul (fwd j).q.conj).scaledAxis).divs e = _
  rw [scaledAxis_of_toMat_axisRot _ hu hs h.axis hm, V3.scale_mul_divs _ he]

theorem tendsto (h : Revolute fwd j i a o s) :
    Filter.Tendsto (fun e : ℝ => (jacobianColumn fwd j e i).lin.x) (nhdsWithin 0 {0}ᶜ)
      (nhds ((a.cross ((fwd j).t.sub o)).scale s).x) ∧
    Filter.Tendsto (fun e : ℝ => (jacobianColumn fwd j e i).lin.y) (nhdsWithin 0 {0}ᶜ)
      (nhds ((a.cross ((fwd j).t.sub o)).scale s).y) ∧
    Filter.Tendsto (fun e : ℝ => (jacobianColumn fwd j e i).lin.z) (nhdsWithin 0 {0}ᶜ)
      (nhds ((a.cross ((fwd j).t.sub o)).scale s).z) := by
  simp only [h.lin]
  obtain ⟨hx, hy, hz⟩ := axisRot_hasDerivAt h.axis ((fwd j).t.sub o) s
  have h0 : (axisRot a (0 * s)).mulVec ((fwd j).t.sub o) = (fwd j).t.sub o := by
    rw [zero_mul, axisRot_zero, M3.one_mulVec]
  exact ⟨tendsto_slope_zero hx (congrArg V3.x h0), tendsto_slope_zero hy (congrArg V3.y h0),
    tendsto_slope_zero hz (congrArg V3.z h0)⟩

theorem lin_error (h : Revolute fwd j i a o s) {e : ℝ} (he : e ≠ 0) :
    |(jacobianColumn fwd j e i).lin.x - ((a.cross ((fwd j).t.sub o)).scale s).x| ≤
      fdBound e s * ((fwd j).t.sub o).norm ∧
    |(jacobianColumn fwd j e i).lin.y - ((a.cross ((fwd j).t.sub o)).scale s).y| ≤
      fdBound e s * ((fwd j).t.sub o).norm ∧
    |(jacobianColumn fwd j e i).lin.z - ((a.cross ((fwd j).t.sub o)).scale s).z| ≤
      fdBound e s * ((fwd j).t.sub o).norm := by
  -- `‖a × v‖, ‖a × (a × v)‖ ≤ ‖v‖` for the lever arm `v = t − o`
  have n1 := V3.norm_cross_le h.axis ((fwd j).t.sub o)
  have n2 := (V3.norm_cross_le h.axis (a.cross ((fwd j).t.sub o))).trans n1
  obtain ⟨px, py, pz⟩ := V3.abs_comp_le_norm (a.cross ((fwd j).t.sub o))
  obtain ⟨qx, qy, qz⟩ := V3.abs_comp_le_norm (a.cross (a.cross ((fwd j).t.sub o)))
  rw [h.lin, axisRot_mulVec h.axis]
  exact ⟨fd_error_bound _ _ _ _ e s he (px.trans n1) (qx.trans n2),
    fd_error_bound _ _ _ _ e s he (py.trans n1) (qy.trans n2),
    fd_error_bound _ _ _ _ e s he (pz.trans n1) (qz.trans n2)⟩

theorem within_step (h : Revolute fwd j i a o s) (hs : s = 1 ∨ s = -1) {e : ℝ} (he : e ≠ 0)
    (he1 : |e| ≤ 1) :
    |(jacobianColumn fwd j e i).lin.x - ((a.cross ((fwd j).t.sub o)).scale s).x| ≤
      |e| * ((fwd j).t.sub o).norm ∧
    |(jacobianColumn fwd j e i).lin.y - ((a.cross ((fwd j).t.sub o)).scale s).y| ≤
      |e| * ((fwd j).t.sub o).norm ∧
    |(jacobianColumn fwd j e i).lin.z - ((a.cross ((fwd j).t.sub o)).scale s).z| ≤
      |e| * ((fwd j).t.sub o).norm ∧
    (jacobianColumn fwd j e i).ang = a.scale s := by
  obtain ⟨hx, hy, hz⟩ := h.lin_error he
  have hle := fd_error_bound_le hs he1 (V3.norm_nonneg ((fwd j).t.sub o))
  exact ⟨hx.trans hle, hy.trans hle, hz.trans hle, h.ang he (abs_mul_sign_lt_pi hs he1)⟩

end Revolute

/-- product of the elementary rotations before joint `i` (0-based) -/
noncomputable def preRot (q : J6 ℝ) : Nat → M3 ℝ
  | 0 => M3.one | 1 => rot1 q | 2 => rot2 q | 3 => rot3 q | 4 => rot4 q | _ => rot5 q

/-- origin of link `i` (0-based): a point on the axis of joint `i` -/
noncomputable def linkOrg (p : Params ℝ) (q : J6 ℝ) : Nat → V3 ℝ
  | 0 => org1 p q | 1 => org2 p q | 2 => org3 p q | 3 => org4 p q | 4 => org5 p q | _ => org6 p q

/-- axis of joint `i` in its own frame: `ŷ` for joints 2, 3, 5 (indices 1, 2, 4), else `ẑ` -/
def localAxis : Nat → V3 ℝ
  | 1 => ey | 2 => ey | 4 => ey | _ => ez

/-- elementary rotation of joint `i` by the angle `φ` -/
noncomputable def localRot : Nat → ℝ → M3 ℝ
  | 1, φ => M3.ry (Real.sin φ) (Real.cos φ)
  | 2, φ => M3.ry (Real.sin φ) (Real.cos φ)
  | 4, φ => M3.ry (Real.sin φ) (Real.cos φ)
  | _, φ => M3.rz (Real.sin φ) (Real.cos φ)

/-- axis of joint `i` in the world frame -/
noncomputable def worldAxis (q : J6 ℝ) (i : Nat) : V3 ℝ := (preRot q i).mulVec (localAxis i)

/-- rotation by `φ` about the world axis of joint `i`: `A R(φ) Aᵀ` -/
noncomputable def jointRot (q : J6 ℝ) (i : Nat) (φ : ℝ) : M3 ℝ := conj (preRot q i) (localRot i φ)

/-- rotation of link `i` (0-based), the frame after joint `i`: the frame before the joint times the
joint's rotation (`rot1 … rot6`) -/
noncomputable def linkRot (q : J6 ℝ) (i : Nat) : M3 ℝ := (preRot q i).mul (localRot i (q.get i))

theorem six_cases {i : Nat} (hi : i < 6) : i = 0 ∨ i = 1 ∨ i = 2 ∨ i = 3 ∨ i = 4 ∨ i = 5 := by
  revert i
  decide

theorem IsRot_preRot (q : J6 ℝ) (i : Nat) : IsRot (preRot q i) := by
  unfold preRot
  split
  exacts [IsRot_one, IsRot_rot1 q, IsRot_rot2 q, IsRot_rot3 q, IsRot_rot4 q, IsRot_rot5 q]

theorem localRot_axis_cases : ∀ i : Nat,
    ((localRot i = fun φ => M3.ry (Real.sin φ) (Real.cos φ)) ∧ localAxis i = ey) ∨
    ((localRot i = fun φ => M3.rz (Real.sin φ) (Real.cos φ)) ∧ localAxis i = ez)
  | 1 | 2 | 4 => .inl ⟨rfl, rfl⟩
  | 0 | 3 | _ + 5 => .inr ⟨rfl, rfl⟩

theorem localAxis_normSq (i : Nat) : (localAxis i).normSq = 1 := by
  rcases localRot_axis_cases i with ⟨-, h⟩ | ⟨-, h⟩ <;> rw [h] <;>
    simp only [V3.normSq, V3.dot, ey, ez] <;> ring

theorem localRot_eq (i : Nat) (φ : ℝ) : localRot i φ = axisRot (localAxis i) φ := by
  unfold axisRot
  rcases localRot_axis_cases i with ⟨h1, h2⟩ | ⟨h1, h2⟩
  · rw [h1, h2, ← rotY_eq_axisQuat, Quat.toMat_rotY]
  · rw [h1, h2, ← rotZ_eq_axisQuat, Quat.toMat_rotZ]

theorem localRot_add (i : Nat) (a e : ℝ) : localRot i (a + e) = (localRot i e).mul (localRot i a) := by
  simp only [localRot_eq]
  exact axisRot_add (localAxis_normSq i) a e

theorem worldAxis_normSq (q : J6 ℝ) (i : Nat) : (worldAxis q i).normSq = 1 := by
  unfold worldAxis; rw [(IsRot_preRot q i).normSq_mulVec, localAxis_normSq]

theorem jointRot_eq (q : J6 ℝ) (i : Nat) (φ : ℝ) : jointRot q i φ = axisRot (worldAxis q i) φ := by
  unfold jointRot worldAxis
  rw [localRot_eq, conj_axisRot (IsRot_preRot q i)]

theorem linkRot_zero (q : J6 ℝ) : linkRot q 0 = rot1 q := M3.one_mul _

theorem link_set (p : Params ℝ) (q : J6 ℝ) {i : Nat} (hi : i < 6) (x : ℝ) :
    preRot (q.set i x) i = preRot q i ∧ (q.set i x).get i = x ∧
    linkOrg p (q.set i x) i = linkOrg p q i := by
  -- reduce the tables at the index first: `rfl` would compare all their entries, `rot1 … rot5` of the
  -- two joint vectors, which differ, and find that out only after unfolding them completely
  rcases six_cases hi with rfl | rfl | rfl | rfl | rfl | rfl <;> refine ⟨?_, rfl, ?_⟩ <;>
    simp only [preRot, linkOrg] <;> rfl

/-- the joint's own rotation fixes its axis -/
theorem linkRot_mulVec_axis (q : J6 ℝ) (i : Nat) :
    (linkRot q i).mulVec (localAxis i) = worldAxis q i := by
  unfold linkRot worldAxis
  rw [M3.mulVec_mulVec, localRot_eq, axisRot_mulVec_axis (localAxis_normSq i)]

theorem moved_link (p : Params ℝ) (q : J6 ℝ) {i : Nat} (hi : i < 6) (e : ℝ) :
    Moved (jointRot q i e) (linkOrg p q i) (linkRot q i) (linkOrg p q i)
      (linkRot (q.set i (q.get i + e)) i) (linkOrg p (q.set i (q.get i + e)) i) := by
  obtain ⟨h1, h2, h3⟩ := link_set p q hi (q.get i + e)
  unfold linkRot
  rw [h1, h2, h3, localRot_add]
  exact Moved.self (IsRot_preRot q i).tm _ _ _

theorem moved_tool (p : Params ℝ) (q : J6 ℝ) {i : Nat} (hi : i < 6) (e : ℝ) :
    Moved (jointRot q i e) (linkOrg p q i) (rot6 q) (org6 p q)
      (rot6 (q.set i (q.get i + e))) (org6 p (q.set i (q.get i + e))) := by
  have h := moved_link p q hi e
  rcases six_cases hi with rfl | rfl | rfl | rfl | rfl | rfl
  · rw [linkRot_zero, linkRot_zero] at h
    exact (((((h.step _ ⟨p.a1, p.b, 0⟩).step _ ⟨0, 0, p.c2⟩).step _ ⟨p.a2, 0, 0⟩).step _
      ⟨0, 0, p.c3⟩).step _ ⟨0, 0, p.c4⟩)
  · exact ((((h.step _ ⟨0, 0, p.c2⟩).step _ ⟨p.a2, 0, 0⟩).step _ ⟨0, 0, p.c3⟩).step _ ⟨0, 0, p.c4⟩)
  · exact (((h.step _ ⟨p.a2, 0, 0⟩).step _ ⟨0, 0, p.c3⟩).step _ ⟨0, 0, p.c4⟩)
  · exact ((h.step _ ⟨0, 0, p.c3⟩).step _ ⟨0, 0, p.c4⟩)
  · exact (h.step _ ⟨0, 0, p.c4⟩)
  · exact h

/-! `thetaOf` joint by joint, for `forward_moved` -/

theorem thetaOf_get (p : Params ℝ) (j : J6 ℝ) :
    ∀ i, (thetaOf p j).get i = j.get i * p.signs.get i - p.offsets.get i
  -- `by rfl`: elaborated as a term, `rfl` compares the two sides twice
  | 0 | 1 | 2 | 3 | 4 | _ + 5 => by rfl

theorem thetaOf_set (p : Params ℝ) (j : J6 ℝ) (v : ℝ) :
    ∀ i, thetaOf p (j.set i v) = (thetaOf p j).set i (v * p.signs.get i - p.offsets.get i)
  | 0 | 1 | 2 | 3 | 4 | _ + 5 => by rfl

theorem thetaOf_set_add (p : Params ℝ) (j : J6 ℝ) (i : Nat) (e : ℝ) :
    thetaOf p (j.set i (j.get i + e)) =
      (thetaOf p j).set i ((thetaOf p j).get i + e * p.signs.get i) := by
  rw [thetaOf_set, thetaOf_get]; congr 1; ring

theorem forward_unit (p : Params ℝ) (j : J6 ℝ) : (forward p j).q.normSq = 1 :=
  _root_.Opw.forward_unit p j

theorem forward_moved (p : Params ℝ) (j : J6 ℝ) {i : Nat} (hi : i < 6) (e : ℝ) :
    PoseMoved (jointRot (thetaOf p j) i (e * p.signs.get i)) (linkOrg p (thetaOf p j) i)
      (forward p j) (forward p (j.set i (j.get i + e))) := by
  have hm := moved_tool p (thetaOf p j) hi (e * p.signs.get i)
  rw [← thetaOf_set_add p j i e] at hm
  refine ⟨?_, ?_⟩
  · rw [forward_toMat, forward_toMat]; exact hm.rot
  · rw [forward_t, forward_t]; exact hm.org

theorem forward_revolute (p : Params ℝ) (j : J6 ℝ) {i : Nat} (hi : i < 6) :
    Revolute (forward p) j i (worldAxis (thetaOf p j) i) (linkOrg p (thetaOf p j) i)
      (p.signs.get i) :=
  ⟨forward_unit p, worldAxis_normSq _ i, fun e => jointRot_eq _ i _ ▸ forward_moved p j hi e⟩

theorem chain_link (p : Params ℝ) (j : J6 ℝ) {i : Nat} (hi : i < 6) :
    ∃ l : Iso ℝ, (chain p j)[i]? = some l ∧
      LinkIs l (linkRot (thetaOf p j) i) (linkOrg p (thetaOf p j) i) := by
  have hc : chain p j = _ := chainTheta_eq p (thetaOf p j)
  rw [hc]
  rcases six_cases hi with rfl | rfl | rfl | rfl | rfl | rfl
  · exact ⟨_, rfl, linkRot_zero _ ▸ lnk1_is _ _⟩
  · exact ⟨_, rfl, lnk2_is _ _⟩
  · exact ⟨_, rfl, lnk3_is _ _⟩
  · exact ⟨_, rfl, lnk4_is _ _⟩
  · exact ⟨_, rfl, lnk5_is _ _⟩
  · exact ⟨_, rfl, lnk6_is _ _⟩

theorem chain_link_axis_origin (p : Params ℝ) (j : J6 ℝ) {i : Nat} (hi : i < 6) :
    ∃ l : Iso ℝ, (chain p j)[i]? = some l ∧ l.q.normSq = 1 ∧ l.t = linkOrg p (thetaOf p j) i ∧
      l.q.rotate (localAxis i) = worldAxis (thetaOf p j) i := by
  obtain ⟨l, hl, h⟩ := chain_link p j hi
  refine ⟨l, hl, h.unit, h.org, ?_⟩
  rw [Quat.rotate_eq_mulVec _ h.unit, h.rot, linkRot_mulVec_axis]

theorem chain_revolute (p : Params ℝ) (j : J6 ℝ) {i : Nat} (hi : i < 6) :
    ∃ l : Iso ℝ, (chain p j)[i]? = some l ∧
      Revolute (forward p) j i (l.q.rotate (localAxis i)) l.t (p.signs.get i) := by
  obtain ⟨l, hl, -, ho, ha⟩ := chain_link_axis_origin p j hi
  refine ⟨l, hl, ?_⟩
  rw [ha, ho]
  exact forward_revolute p j hi

end Opw.JacCols
