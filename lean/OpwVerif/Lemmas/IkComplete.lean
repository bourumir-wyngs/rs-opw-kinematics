/-
  Completeness of the closed-form inverse kinematics over ℝ (C02): for a configuration θ that is not at
  a shoulder, elbow or wrist singularity the raw candidates `thetaCandidates p (poseOf p θ)` contain θ
  modulo whole turns, and the matching candidate passes the cross-check of `inverse_intern`.

  The wrist centre of the pose is that of θ.  In the arm plane it is `e^{iθ2} (c2 + κ e^{iφ})`, from
  which `arm_angles` reads θ2 and θ3 back for both shoulders (`planar_complete`); the wrist angles are
  the ZYZ reading of `R0cᵀ R = Rce(θ4, θ5, θ6)` (`cand_turnEq`).
-/
import OpwVerif.Lemmas.Chain
import OpwVerif.Lemmas.Planar
import OpwVerif.Lemmas.Flip

namespace Opw.IkComplete
open Opw Opw.Wrist Opw.C02

/-- elbow angle `φ = θ₃ + ψ₃` (angle between upper arm and the line elbow–wrist centre) -/
noncomputable def phi (p : Params ℝ) (θ : J6 ℝ) : ℝ := θ.j3 + psi3 p
/-- `forward` in θ-space: `forward p j = poseOf p (thetaOf p j)` by `rfl` (`forward_eq_poseOf`) -/
noncomputable def poseOf (p : Params ℝ) (θ : J6 ℝ) : Iso ℝ :=
  ⟨(forwardTheta p θ).2, Quat.ofMat (forwardTheta p θ).1⟩

/-- `θ` is away from the shoulder, elbow and wrist singularities (and the arm is not degenerate) -/
structure NonSingular (p : Params ℝ) (θ : J6 ℝ) : Prop where
  c2_pos : 0 < p.c2
  kappa_pos : 0 < kappa p
  /-- the wrist centre is not in the plane through the J1 axis normal to the arm plane -/
  shoulder : cx1 p θ ≠ 0
  /-- the arm is neither stretched nor folded -/
  elbow : Real.sin (phi p θ) ≠ 0
  /-- J4 and J6 are not collinear -/
  wrist : Real.sin θ.j5 ≠ 0

theorem IsRot_roe (θ : J6 ℝ) : IsRot (roe θ) := by
  rw [roe_eq_rot6]; exact IsRot_rot6 θ

theorem poseOf_eq (p : Params ℝ) (θ : J6 ℝ) :
    poseOf p θ = ⟨(wcθ p θ).add ((M3.scaleL p.c4 (roe θ)).mulVec V3.ez), Quat.ofMat (roe θ)⟩ := by
  unfold poseOf; rw [forwardTheta_eq]

theorem poseOf_toMat (p : Params ℝ) (θ : J6 ℝ) : (poseOf p θ).q.toMat = roe θ := by
  rw [poseOf_eq]; exact Quat.toMat_ofMat _ (IsRot_roe θ)

theorem poseOf_unit (p : Params ℝ) (θ : J6 ℝ) : (poseOf p θ).q.normSq = 1 := by
  rw [poseOf_eq]; exact Quat.normSq_ofMat _ (IsRot_roe θ)

theorem wc_poseOf (p : Params ℝ) (θ : J6 ℝ) : wc p (poseOf p θ) = wcθ p θ := by
  unfold wc
  rw [poseOf_toMat, poseOf_eq]
  simp only [V3.sub, V3.add, M3.mulVec, M3.scaleL, V3.ez, lit0, lit1, mul_zero, mul_one, zero_add,
    add_sub_cancel_right]

theorem wc_sq (p : Params ℝ) (θ : J6 ℝ) :
    ((wcθ p θ).x * (wcθ p θ).x + (wcθ p θ).y * (wcθ p θ).y) - p.b * p.b = cx1 p θ ^ 2 := by
  rw [wcθ, rot_sumsq, add_sub_cancel_right, sq]

theorem nx1_eq (p : Params ℝ) (θ : J6 ℝ) : nx1 p (wcθ p θ) = |cx1 p θ| - p.a1 := by
  rw [nx1, nsqrt_real, wc_sq, Real.sqrt_sq_eq_abs]

theorem nx1_front (p : Params ℝ) (θ : J6 ℝ) (h : 0 < cx1 p θ) : nx1 p (wcθ p θ) = armX p θ := by
  rw [nx1_eq, abs_of_pos h]; unfold cx1; ring

theorem nx1_back (p : Params ℝ) (θ : J6 ℝ) (h : cx1 p θ < 0) :
    nx1 p (wcθ p θ) + 2 * p.a1 = -armX p θ := by
  rw [nx1_eq, abs_of_neg h]; unfold cx1; ring

theorem tmp1_turnEq (p : Params ℝ) (θ : J6 ℝ) (h : cx1 p θ ≠ 0) :
    TurnEq (Complex.arg ⟨(wcθ p θ).x, (wcθ p θ).y⟩) (Complex.arg ⟨cx1 p θ, p.b⟩ + θ.j1) :=
  arg_rot (Or.inl h) θ.j1

theorem th1i_front (p : Params ℝ) (θ : J6 ℝ) (h : 0 < cx1 p θ) :
    TurnEq (th1i p (wcθ p θ)) θ.j1 := by
  rw [th1i, natan2_real, natan2_real, nx1_front p θ h, show armX p θ + p.a1 = cx1 p θ from rfl]
  exact ((tmp1_turnEq p θ h.ne').sub_const _).congr_right (add_sub_cancel_left _ _)

theorem th1ii_back (p : Params ℝ) (θ : J6 ℝ) (h : cx1 p θ < 0) :
    TurnEq (th1ii p (wcθ p θ)) θ.j1 := by
  rw [th1ii, natan2_real, natan2_real, pi_def_real, nx1_eq, abs_of_neg h, sub_add_cancel]
  have h1 := tmp1_turnEq p θ h.ne
  have h2 := arg_reflect (x := cx1 p θ) (y := p.b) (Or.inl h.ne)
  exact ((h1.add h2).sub_const Real.pi).congr_right (by ring)

/-- wrist centre in the frame of the upper arm: along the arm … -/
noncomputable def uu (p : Params ℝ) (θ : J6 ℝ) : ℝ := p.c2 + kappa p * Real.cos (phi p θ)
/-- … and across it -/
noncomputable def vv (p : Params ℝ) (θ : J6 ℝ) : ℝ := kappa p * Real.sin (phi p θ)

theorem kappa2_eq (p : Params ℝ) : kappa2 p = kappa p ^ 2 := by
  rw [kappa, Real.sq_sqrt (add_nonneg (mul_self_nonneg _) (mul_self_nonneg _)), kappa2]

theorem tmp9_eq (p : Params ℝ) : tmp9 p = 2 * p.c2 * kappa p := by
  unfold tmp9; rw [lit2]; rfl

theorem cz1_rot (p : Params ℝ) (θ : J6 ℝ) :
    cz1 p θ = uu p θ * Real.cos θ.j2 - vv p θ * Real.sin θ.j2 := by
  unfold cz1 uu vv phi
  rw [add_assoc]
  exact (two_link_rot _ _ _ _).1

theorem armX_rot (p : Params ℝ) (θ : J6 ℝ) :
    armX p θ = uu p θ * Real.sin θ.j2 + vv p θ * Real.cos θ.j2 := by
  unfold armX uu vv phi
  rw [add_assoc]
  exact (two_link_rot _ _ _ _).2

theorem reach_sq (p : Params ℝ) (θ : J6 ℝ) :
    armX p θ * armX p θ + cz1 p θ * cz1 p θ = uu p θ * uu p θ + vv p θ * vv p θ := by
  rw [cz1_rot, armX_rot, add_comm, rot_sumsq]

theorem wcθ_z (p : Params ℝ) (θ : J6 ℝ) : (wcθ p θ).z - p.c1 = cz1 p θ := by
  simp only [wcθ]; ring

theorem s1sq_front (p : Params ℝ) (θ : J6 ℝ) (h : 0 < cx1 p θ) :
    s1sq p (wcθ p θ) = uu p θ * uu p θ + vv p θ * vv p θ := by
  unfold s1sq; rw [nx1_front p θ h, wcθ_z, reach_sq]

theorem s2sq_back (p : Params ℝ) (θ : J6 ℝ) (h : cx1 p θ < 0) :
    s2sq p (wcθ p θ) = uu p θ * uu p θ + vv p θ * vv p θ := by
  rw [s2sq, lit2, nx1_back p θ h, wcθ_z, neg_mul_neg, reach_sq]

/-- the shoulder `acos` as a function of the squared distance `s` from the J2 axis to the wrist centre:
`tmp13` at `s1sq`, `tmp15` at `s2sq` -/
noncomputable def shoulderAcos (p : Params ℝ) (s : ℝ) : ℝ :=
  nacos ((s + p.c2 * p.c2 - kappa2 p) / (2 * nsqrt s * p.c2))
/-- the elbow `acos`: `tmp11` at `s1sq`, `tmp12` at `s2sq` -/
noncomputable def elbowAcos (p : Params ℝ) (s : ℝ) : ℝ := nacos ((s - p.c2 * p.c2 - kappa2 p) / tmp9 p)

theorem elbow_arg_eq (p : Params ℝ) (s : ℝ) :
    (s - p.c2 * p.c2 - kappa2 p) / tmp9 p = elbowRatio p.c2 (kappa p) s := by
  rw [elbowRatio, ← sq (kappa p), ← kappa2_eq, tmp9_eq]

theorem elbow_ratio (p : Params ℝ) (θ : J6 ℝ) (hc : 0 < p.c2) (hk : 0 < kappa p) :
    (uu p θ * uu p θ + vv p θ * vv p θ - p.c2 * p.c2 - kappa2 p) / tmp9 p = Real.cos (phi p θ) := by
  rw [elbow_arg_eq]
  exact (elbowRatio_eq_iff hc hk _ _).mpr (law_of_cosines p.c2 (kappa p) (phi p θ))

theorem shoulderAcos_eq (p : Params ℝ) (s : ℝ) :
    shoulderAcos p s = Real.arccos (shoulderRatio p.c2 (kappa p) s) := by
  rw [shoulderRatio, ← sq (kappa p), ← kappa2_eq]; unfold shoulderAcos; rw [lit2]; rfl

theorem elbowAcos_eq (p : Params ℝ) (s : ℝ) :
    elbowAcos p s = Real.arccos (elbowRatio p.c2 (kappa p) s) := by
  rw [← elbow_arg_eq]; rfl

theorem tmp14_front (p : Params ℝ) (θ : J6 ℝ) (hv : vv p θ ≠ 0) (h : 0 < cx1 p θ) :
    TurnEq (tmp14 p (wcθ p θ)) (Complex.arg ⟨uu p θ, vv p θ⟩ + θ.j2) := by
  rw [tmp14, natan2_real, nx1_front p θ h, wcθ_z, cz1_rot, armX_rot]
  exact arg_rot (Or.inr hv) θ.j2

/-- back shoulder: the arm plane is seen from the other side -/
theorem tmp16_back (p : Params ℝ) (θ : J6 ℝ) (hv : vv p θ ≠ 0) (h : cx1 p θ < 0) :
    TurnEq (-tmp16 p (wcθ p θ)) (Complex.arg ⟨uu p θ, vv p θ⟩ + θ.j2) := by
  rw [tmp16, natan2_real, lit2, nx1_back p θ h, wcθ_z, cz1_rot, armX_rot]
  -- the point is `(uu, vv)` turned by `θ2` and mirrored in the real axis
  exact ((arg_mirror _ _).neg.congr_right (neg_neg _)).trans (arg_rot (Or.inr hv) θ.j2)

/-- θ2 and θ3 from the squared distance `s` and the direction `T` of the wrist centre in the arm
plane, for either shoulder: elbow up (`sin φ > 0`) and elbow down -/
theorem arm_angles (p : Params ℝ) (θ : J6 ℝ) (hc : 0 < p.c2) (hk : 0 < kappa p) {s T : ℝ}
    (hs : s = uu p θ * uu p θ + vv p θ * vv p θ)
    (hT : TurnEq T (Complex.arg ⟨uu p θ, vv p θ⟩ + θ.j2)) :
    (0 < Real.sin (phi p θ) →
      TurnEq (-shoulderAcos p s + T) θ.j2 ∧ TurnEq (elbowAcos p s - psi3 p) θ.j3) ∧
    (Real.sin (phi p θ) < 0 →
      TurnEq (shoulderAcos p s + T) θ.j2 ∧ TurnEq (-elbowAcos p s - psi3 p) θ.j3) := by
  obtain ⟨up, dn⟩ := planar_complete (φ := phi p θ) hc hk hs
  rw [shoulderAcos_eq, elbowAcos_eq]
  refine ⟨fun h => ?_, fun h => ?_⟩
  · obtain ⟨h3, h2⟩ := up h
    exact ⟨(h2.neg.add hT).congr_right (neg_add_cancel_left _ _),
      (h3.sub_const _).congr_right (add_sub_cancel_right _ _)⟩
  · obtain ⟨h3, h2⟩ := dn h
    exact ⟨((h2.neg.congr_left (neg_neg _)).add hT).congr_right (neg_add_cancel_left _ _),
      (h3.sub_const _).congr_right (add_sub_cancel_right _ _)⟩

theorem IsRot_r0c (a b c : ℝ) :
    IsRot (r0c (Real.sin a) (Real.cos a) (Real.sin b) (Real.cos b) (Real.sin c) (Real.cos c)) := by
  rw [r0c_sin_cos]; exact (IsRot_rz a).mul (IsRot_ry (b + c))

theorem IsRot_rce (a b c : ℝ) :
    IsRot (rce (Real.sin a) (Real.cos a) (Real.sin b) (Real.cos b) (Real.sin c) (Real.cos c)) := by
  rw [rce_eq_product]; exact ((IsRot_rz a).mul (IsRot_ry b)).mul (IsRot_rz c)

/-- `R0c(θ1,θ2,θ3)ᵀ · R`, the rotation the wrist has to produce -/
noncomputable def wristTarget (R : M3 ℝ) (t1 t2 t3 : ℝ) : M3 ℝ :=
  (r0c (Real.sin t1) (Real.cos t1) (Real.sin t2) (Real.cos t2) (Real.sin t3) (Real.cos t3)).transpose.mul R

theorem wristTarget_entries (R : M3 ℝ) (t1 t2 t3 : ℝ) :
    (wristTarget R t1 t2 t3).m22 =
      R.m02 * Real.sin (t2 + t3) * Real.cos t1 + R.m12 * Real.sin (t2 + t3) * Real.sin t1
        + R.m22 * Real.cos (t2 + t3) ∧
    (wristTarget R t1 t2 t3).m12 = R.m12 * Real.cos t1 - R.m02 * Real.sin t1 ∧
    (wristTarget R t1 t2 t3).m02 =
      R.m02 * Real.cos (t2 + t3) * Real.cos t1 + R.m12 * Real.cos (t2 + t3) * Real.sin t1
        - R.m22 * Real.sin (t2 + t3) ∧
    (wristTarget R t1 t2 t3).m21 =
      R.m01 * Real.sin (t2 + t3) * Real.cos t1 + R.m11 * Real.sin (t2 + t3) * Real.sin t1
        + R.m21 * Real.cos (t2 + t3) ∧
    -(wristTarget R t1 t2 t3).m20 =
      -R.m00 * Real.sin (t2 + t3) * Real.cos t1 - R.m10 * Real.sin (t2 + t3) * Real.sin t1
        - R.m20 * Real.cos (t2 + t3) := by
  simp only [wristTarget, r0c_sin_cos, M3.mul, M3.transpose, M3.rz, M3.ry, lit0, lit1, mul_zero,
    zero_mul, add_zero, zero_add, mul_one, one_mul]
  refine ⟨?_, ?_, ?_, ?_, ?_⟩ <;> ring

/-- ZYZ Euler angles of a matrix, read off as the solver does: `θ4` from the last column, `θ5` from
the `(3,3)` entry, `θ6` from the last row -/
noncomputable def zyzAngles (N : M3 ℝ) : ℝ × ℝ × ℝ :=
  (Complex.arg ⟨N.m02, N.m12⟩, Complex.arg ⟨N.m22, Real.sqrt (1 - N.m22 * N.m22)⟩,
    Complex.arg ⟨-N.m20, N.m21⟩)

theorem wristSol_eq (R : M3 ℝ) (t1 t2 t3 : ℝ) :
    wristSol R (Real.sin t1) (Real.cos t1) (t2 + t3) = zyzAngles (wristTarget R t1 t2 t3) := by
  obtain ⟨n22, n12, n02, n21, n20⟩ := wristTarget_entries R t1 t2 t3
  simp only [zyzAngles, n22, n12, n02, n21, n20, wristSol, nsin_real, ncos_real, natan2_real, nsqrt_real,
    lit1]

theorem wristTarget_roe (θ : J6 ℝ) :
    wristTarget (roe θ) θ.j1 θ.j2 θ.j3 =
      rce (Real.sin θ.j4) (Real.cos θ.j4) (Real.sin θ.j5) (Real.cos θ.j5) (Real.sin θ.j6)
        (Real.cos θ.j6) := by
  unfold roe wristTarget
  rw [← M3.mul_assoc, (IsRot_r0c θ.j1 θ.j2 θ.j3).tm, M3.one_mul]

theorem zyzAngles_rce {N : M3 ℝ} {t4 t5 t6 : ℝ}
    (hN : N = rce (Real.sin t4) (Real.cos t4) (Real.sin t5) (Real.cos t5) (Real.sin t6) (Real.cos t6))
    (h5 : 0 < Real.sin t5) :
    TurnEq (zyzAngles N).1 t4 ∧ TurnEq (zyzAngles N).2.1 t5 ∧ TurnEq (zyzAngles N).2.2 t6 := by
  have hs : Real.sqrt (1 - Real.cos t5 * Real.cos t5) = Real.sin t5 := by
    rw [← sq, ← Real.sin_sq, Real.sqrt_sq h5.le]
  simp only [hN, zyzAngles, rce, hs, neg_mul, neg_neg, mul_comm (Real.cos t4), mul_comm (Real.sin t4)]
  refine ⟨arg_polar h5 _, ?_, arg_polar h5 _⟩
  simpa using arg_polar one_pos t5

theorem cand_turnEq (θ : J6 ℝ) {t1 t2 t3 : ℝ} (h1 : TurnEq t1 θ.j1) (h2 : TurnEq t2 θ.j2)
    (h3 : TurnEq t3 θ.j3) (h5 : 0 < Real.sin θ.j5) : J6TurnEq (cand (roe θ) t1 t2 t3) θ := by
  obtain ⟨w4, w5, w6⟩ := zyzAngles_rce (N := wristTarget (roe θ) t1 t2 t3) (t4 := θ.j4) (t6 := θ.j6)
    (by unfold wristTarget
        rw [h1.sin_eq, h1.cos_eq, h2.sin_eq, h2.cos_eq, h3.sin_eq, h3.cos_eq]
        exact wristTarget_roe θ) h5
  rw [← wristSol_eq] at w4 w5 w6
  exact ⟨h1, h2, h3, w4, w5, w6⟩

/-- `sin θ5 > 0`: one of the first four raw candidates (front/back shoulder × elbow up/down) -/
theorem theta_candidate_complete_pos (p : Params ℝ) (θ : J6 ℝ) (h : NonSingular p θ)
    (h5 : 0 < Real.sin θ.j5) : ∃ t ∈ thetaCandidates p (poseOf p θ), J6TurnEq t θ := by
  obtain ⟨hc, hk, hsh, hel, -⟩ := h
  have hv : vv p θ ≠ 0 := mul_ne_zero hk.ne' hel
  rw [thetaCandidates_eq, wc_poseOf, poseOf_toMat]
  -- below, `arm_angles` speaks of `∓shoulderAcos p s + T` and `±elbowAcos p s − ψ3`; these ARE the
  -- solver's `th2i … th3iv` by unfolding (`tmp13 p c = shoulderAcos p (s1sq p c)`, `tmp11 p c =
  -- elbowAcos p (s1sq p c)`, `tmp15`, `tmp12` the same at `s2sq`), which `exact` checks
  rcases lt_or_gt_of_ne hsh with hb | hf
  · obtain ⟨up, dn⟩ := arm_angles p θ hc hk (s2sq_back p θ hb) (tmp16_back p θ hv hb)
    rcases lt_or_gt_of_ne hel with he | he
    · exact ⟨_, .tail _ (.tail _ (.tail _ (.head _))),
        cand_turnEq θ (th1ii_back p θ hb) ((dn he).1.congr_left (sub_eq_add_neg _ _).symm) (dn he).2 h5⟩
    · exact ⟨_, .tail _ (.tail _ (.head _)),
        cand_turnEq θ (th1ii_back p θ hb) ((up he).1.congr_left (sub_eq_add_neg _ _).symm) (up he).2 h5⟩
  · obtain ⟨up, dn⟩ := arm_angles p θ hc hk (s1sq_front p θ hf) (tmp14_front p θ hv hf)
    rcases lt_or_gt_of_ne hel with he | he
    · exact ⟨_, .tail _ (.head _),
        cand_turnEq θ (th1i_front p θ hf) (dn he).1 (dn he).2 h5⟩
    · exact ⟨_, .head _, cand_turnEq θ (th1i_front p θ hf) (up he).1 (up he).2 h5⟩

theorem nonSingular_flip {p : Params ℝ} {θ : J6 ℝ} (h : NonSingular p θ) : NonSingular p (C02.flip θ) :=
  ⟨h.c2_pos, h.kappa_pos, h.shoulder, h.elbow, by
    show Real.sin (-θ.j5) ≠ 0
    rw [Real.sin_neg]; exact neg_ne_zero.mpr h.wrist⟩

theorem poseOf_flip (p : Params ℝ) (θ : J6 ℝ) : poseOf p (C02.flip θ) = poseOf p θ := by
  unfold poseOf; rw [forwardTheta_flip']

/-- `sin θ5 < 0` through the wrist flip -/
theorem theta_candidate_complete (p : Params ℝ) (θ : J6 ℝ) (h : NonSingular p θ) :
    ∃ t ∈ thetaCandidates p (poseOf p θ), J6TurnEq t θ := by
  rcases lt_or_gt_of_ne h.wrist with h5 | h5
  · have h5' : 0 < Real.sin (C02.flip θ).j5 := by
      show 0 < Real.sin (-θ.j5)
      rw [Real.sin_neg]; exact neg_pos.mpr h5
    obtain ⟨t, ht, hte⟩ := theta_candidate_complete_pos p (C02.flip θ) (nonSingular_flip h) h5'
    rw [poseOf_flip] at ht
    obtain ⟨t', ht', hc⟩ := candidates_twin p (poseOf p θ) t ht
    exact ⟨t', ht', hc.trans ((flip_turnEq hte).trans (flip_flip_turnEq θ))⟩
  · exact theta_candidate_complete_pos p θ h h5

/-- two unit quaternions with the same rotation matrix (`b = ±a`) are at angle `0` -/
theorem angleTo_of_toMat_eq (a b : Quat ℝ) (ha : a.normSq = 1) (hb : b.normSq = 1)
    (h : a.toMat = b.toMat) : Quat.angleTo a b = 0 := by
  rw [Quat.angleTo_congr_left a b b ha hb h]
  unfold Quat.angleTo Quat.rotationTo
  rw [Quat.mul_conj_self _ hb]
  -- the angle of `Quat.one`: `atan2 0 |1| * 2 = 0`
  simp only [Quat.angle, Quat.one, Quat.imag, V3.norm, V3.normSq, V3.dot, lit0, lit1, lit2, mul_zero,
    add_zero, nsqrt_real, Real.sqrt_zero, nabs_real, abs_one, natan2_real, zero_le_one,
    Nearest.arg_mk_im_zero, zero_mul]

theorem comparePoses_of_same (a b : Iso ℝ) (ha : a.q.normSq = 1) (hb : b.q.normSq = 1)
    (ht : a.t = b.t) (hm : a.q.toMat = b.q.toMat) {dT aT : ℝ} (hd : 0 ≤ dT) (hA : 0 ≤ aT) :
    comparePoses a b dT aT = true := by
  have htd : (a.t.sub b.t).norm = 0 := by rw [ht, V3.norm_sub_self]
  simp only [comparePoses, htd, angleTo_of_toMat_eq a.q b.q ha hb hm, nabs_real, abs_zero, hd, hA,
    decide_true, Bool.not_true, Bool.false_eq_true, if_false]

theorem forward_eq_poseOf (p : Params ℝ) (j : J6 ℝ) : forward p j = poseOf p (thetaOf p j) :=
  C02.forward_eq p j

/-- what the solver does with a raw candidate that reproduces the pose: same rigid motion, the
normalisation keeps the forward pose, the cross-check passes -/
theorem finish_of_forwardTheta (p : Params ℝ) (hs : SignsOk p) (pose : Iso ℝ) (hq : pose.q.normSq = 1)
    {t : J6 ℝ} (h : forwardTheta p t = (pose.q.toMat, pose.t)) :
    Iso.Same (forward p (jointsOf p t)) pose ∧
      forward p ((jointsOf p t).map normPi) = forward p (jointsOf p t) ∧
      finishCandidate p pose (jointsOf p t) = some ((jointsOf p t).map normPi) := by
  have hR := IsRot_toMat _ hq
  have e : forward p (jointsOf p t) = ⟨pose.t, Quat.ofMat pose.q.toMat⟩ := by
    rw [forward_eq, thetaOf_jointsOf p hs, h]
  have hsame : Iso.Same (forward p (jointsOf p t)) pose := by
    rw [e]; exact ⟨rfl, Quat.toMat_ofMat _ hR⟩
  have hn := forward_map_normPi p hs (jointsOf p t)
  refine ⟨hsame, hn, finishCandidate_eq_some.mpr ⟨allFinite_real _, rfl, ?_⟩⟩
  unfold Sound
  rw [hn]
  refine comparePoses_of_same _ _ hq ?_ hsame.1.symm hsame.2.symm Nearest.distTol_nonneg
    Nearest.angTol_nonneg
  rw [e]; exact Quat.normSq_ofMat _ hR

theorem ik_complete_intern (p : Params ℝ) (hs : SignsOk p) (j : J6 ℝ)
    (h : NonSingular p (thetaOf p j)) :
    ∃ s ∈ inverseIntern p (forward p j), J6TurnEq (thetaOf p s) (thetaOf p j) := by
  obtain ⟨t, ht, hte⟩ := theta_candidate_complete p (thetaOf p j) h
  -- the matching candidate reproduces the pose, so the solver keeps it
  have hf : forwardTheta p t =
      ((poseOf p (thetaOf p j)).q.toMat, (poseOf p (thetaOf p j)).t) := by
    rw [poseOf_toMat, ← forwardTheta_fst p, forwardTheta_congr p hte]; rfl
  rw [forward_eq_poseOf]
  exact ⟨_, List.mem_filterMap.mpr
      ⟨t, ht, (finish_of_forwardTheta p hs _ (poseOf_unit p _) hf).2.2⟩,
    (thetaOf_finish_turnEq p hs t).trans hte⟩

theorem jointsOf_turnEq (p : Params ℝ) (hs : SignsOk p) {a b : J6 ℝ} (h : J6TurnEq a b) :
    J6TurnEq (jointsOf p a) (jointsOf p b) := by
  obtain ⟨s1, s2, s3, s4, s5, s6⟩ := hs
  obtain ⟨h1, h2, h3, h4, h5, h6⟩ := h
  exact ⟨(h1.add_const _).mul_sign s1, (h2.add_const _).mul_sign s2, (h3.add_const _).mul_sign s3,
    (h4.add_const _).mul_sign s4, (h5.add_const _).mul_sign s5, (h6.add_const _).mul_sign s6⟩

theorem _root_.Opw.IkDistinct.thetaOf_turnEq_iff (p : Params ℝ) (hs : SignsOk p) (a b : J6 ℝ) :
    J6TurnEq (thetaOf p a) (thetaOf p b) ↔ J6TurnEq a b := by
  constructor
  · intro h
    have := jointsOf_turnEq p hs h
    rwa [jointsOf_thetaOf p hs, jointsOf_thetaOf p hs] at this
  · exact thetaOf_turnEq p hs

theorem ik_complete_intern_joint (p : Params ℝ) (hs : SignsOk p) (j : J6 ℝ)
    (h : NonSingular p (thetaOf p j)) : ∃ s ∈ inverseIntern p (forward p j), J6TurnEq s j := by
  obtain ⟨s, hs1, hs2⟩ := ik_complete_intern p hs j h
  exact ⟨s, hs1, (IkDistinct.thetaOf_turnEq_iff p hs s j).mp hs2⟩

/-! ### Example data for the non-vacuity examples of C02b and C02c -/

/-- upper arm vertical (`θ2 = 0`) and elbow at a right angle (`θ3 = π/2`): the wrist centre is `c3`
in front of the J2 axis … -/
theorem armX_upright (p : Params ℝ) (t1 t4 t5 t6 : ℝ) :
    armX p ⟨t1, 0, Real.pi / 2, t4, t5, t6⟩ = p.c3 := by
  rw [armX, zero_add, add_comm (Real.pi / 2), Real.sin_add_pi_div_two, Real.sin_zero, mul_zero, zero_add]
  exact kappa_cos p.a2 p.c3

/-- … and `c2 − a2` above it -/
theorem cz1_upright (p : Params ℝ) (t1 t4 t5 t6 : ℝ) :
    cz1 p ⟨t1, 0, Real.pi / 2, t4, t5, t6⟩ = p.c2 - p.a2 := by
  rw [cz1, zero_add, add_comm (Real.pi / 2), Real.cos_add_pi_div_two, Real.cos_zero, mul_one, mul_neg,
    show kappa p * Real.sin (psi3 p) = p.a2 from kappa_sin p.a2 p.c3, sub_eq_add_neg]

end Opw.IkComplete
