/-
  For C02e: `inverse_intern` reads the requested pose only through its translation and its rotation
  MATRIX.  The raw candidates use `pose.t` and `pose.q.toMat` only, and `angle_to` does not see the sign
  of a unit quaternion, so the cross-check gives the same verdict against either pose.
-/
import OpwVerif.Lemmas.IkSound
namespace Opw.IkSame
open Opw Opw.Wrist Opw.C02 Opw.IkComplete Opw.IkSound

theorem wc_congr (p : Params ℝ) {a b : Iso ℝ} (h : Iso.Same a b) : wc p a = wc p b := by
  unfold wc; rw [h.1, h.2]

theorem thetaCandidates_congr (p : Params ℝ) {a b : Iso ℝ} (h : Iso.Same a b) :
    thetaCandidates p a = thetaCandidates p b := by
  rw [thetaCandidates_eq, thetaCandidates_eq, wc_congr p h, h.2]

theorem unit_of_same {a b : Iso ℝ} (ha : a.q.normSq = 1) (h : Iso.Same a b) : b.q.normSq = 1 :=
  Quat.normSq_of_isRot_toMat _ (h.2 ▸ IsRot_toMat _ ha)

theorem comparePoses_congr_left {a b : Iso ℝ} (ha : a.q.normSq = 1) (hb : b.q.normSq = 1)
    (h : Iso.Same a b) (x : Iso ℝ) (dT aT : ℝ) : comparePoses a x dT aT = comparePoses b x dT aT := by
  unfold comparePoses
  rw [h.1, Quat.angleTo_congr_left a.q b.q x.q ha hb h.2]

theorem finishCandidate_congr (p : Params ℝ) {a b : Iso ℝ} (ha : a.q.normSq = 1)
    (hb : b.q.normSq = 1) (h : Iso.Same a b) (s : J6 ℝ) :
    finishCandidate p a s = finishCandidate p b s := by
  unfold finishCandidate
  simp only [comparePoses_congr_left ha hb h]

/-- one unit hypothesis suffices: the other pose is then unit too -/
theorem inverseIntern_congr (p : Params ℝ) {a b : Iso ℝ} (ha : a.q.normSq = 1) (h : Iso.Same a b) :
    inverseIntern p a = inverseIntern p b := by
  unfold inverseIntern
  rw [thetaCandidates_congr p h]
  congr 1
  funext t
  exact finishCandidate_congr p ha (unit_of_same ha h) h _

end Opw.IkSame
