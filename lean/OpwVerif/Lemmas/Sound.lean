/-
  Control structure of the inverse entry points for ANY number type (`[OpwNum R]`, nothing assumed of
  the arithmetic), so the statements hold of the IEEE `Float` reading of the model itself.  List
  reasoning only, no Mathlib.  Each entry point is reduced to what a returned vector went through
  (`mem_inverse…`), one iteration of the `'shifts` loop to an equation (`shiftStep_eq`), and the four
  inverse entry points of a wrapper stack to one recursion (`Kin.lift`).  The namespace `Ex` at the
  end holds the `Float` objects of the property files' `example`s: every such file imports this one.
-/
import OpwVerif.Wrappers
namespace Opw
variable {R : Type} [OpwNum R]

/-- the run-time cross-check of `inverse_intern`:
`compare_poses(pose, forward(s), DISTANCE_TOLERANCE, ANGULAR_TOLERANCE)` -/
def Sound (p : Params R) (pose : Iso R) (s : J6 R) : Prop :=
  comparePoses pose (forward p s) distTol angTol = true

/-- the run-time cross-check of `inverse_intern_5_dof` (`compare_xyz_only`) -/
def Sound5 (p : Params R) (pose : Iso R) (s : J6 R) : Prop :=
  compareXyz pose.t (forward p s).t distTol = true

/-- the pose `inverse_continuing` solves for in the iteration of the `'shifts` loop with shift `d` -/
def shiftPose (pose : Iso R) (d : V3 R) : Iso R :=
  ⟨⟨pose.t.x + d.x, pose.t.y + d.y, pose.t.z + d.z⟩, pose.q⟩

omit [OpwNum R] in
theorem J6.ext' {a b : J6 R} (h1 : a.j1 = b.j1) (h2 : a.j2 = b.j2) (h3 : a.j3 = b.j3)
    (h4 : a.j4 = b.j4) (h5 : a.j5 = b.j5) (h6 : a.j6 = b.j6) : a = b := by
  cases a; cases b; simp_all

/-- the shape of `finishCandidate` and `finishCandidate5`: `c` "the components are finite", `a` the
normalised vector, `P` the cross-check -/
theorem ite_ite_some_eq_some {α : Type} {c : Prop} [Decidable c] (P : α → Prop) [DecidablePred P]
    {a b : α} : (if c then (if P a then some a else none) else none) = some b ↔ c ∧ b = a ∧ P b := by
  constructor
  · intro h
    split at h
    · split at h
      · cases h; exact ⟨‹c›, rfl, ‹P a›⟩
      · cases h
    · cases h
  · rintro ⟨hc, rfl, hp⟩
    rw [if_pos hc, if_pos hp]

theorem finishCandidate_eq_some {p : Params R} {pose : Iso R} {s s' : J6 R} :
    finishCandidate p pose s = some s' ↔
      s.allFinite = true ∧ s' = s.map normPi ∧ Sound p pose s' :=
  ite_ite_some_eq_some (fun x => comparePoses pose (forward p x) distTol angTol = true)

theorem mem_inverseIntern {p : Params R} {pose : Iso R} {s : J6 R} :
    s ∈ inverseIntern p pose ↔
      ∃ t ∈ thetaCandidates p pose,
        (jointsOf p t).allFinite = true ∧ s = (jointsOf p t).map normPi ∧ Sound p pose s := by
  simp only [inverseIntern, List.mem_filterMap, finishCandidate_eq_some]

theorem sound_of_mem_inverseIntern {p : Params R} {pose : Iso R} {s : J6 R}
    (h : s ∈ inverseIntern p pose) : Sound p pose s := by
  obtain ⟨_, _, _, _, hs⟩ := mem_inverseIntern.mp h
  exact hs

/-- the normalised vector `inverse_intern_5_dof` builds from a raw candidate -/
def norm5 (s : J6 R) (j6 : R) : J6 R :=
  ⟨normPi s.j1, normPi s.j2, normPi s.j3, normPi s.j4, normPi s.j5, j6⟩

theorem finishCandidate5_eq_some {p : Params R} {pose : Iso R} {j6 : R} {s s' : J6 R} :
    finishCandidate5 p pose j6 s = some s' ↔
      ({ s with j6 := j6 } : J6 R).first5Finite = true ∧ s' = norm5 s j6 ∧ Sound5 p pose s' :=
  ite_ite_some_eq_some (fun x => compareXyz pose.t (forward p x).t distTol = true)

theorem mem_inverseIntern5 {p : Params R} {pose : Iso R} {j6 : R} {s : J6 R} :
    s ∈ inverseIntern5 p pose j6 ↔
      ∃ t ∈ thetaCandidates p pose,
        ({ jointsOf p t with j6 := j6 } : J6 R).first5Finite = true ∧
        s = norm5 (jointsOf p t) j6 ∧ Sound5 p pose s := by
  simp only [inverseIntern5, List.mem_filterMap, finishCandidate5_eq_some]

theorem mem_filterCompliant {k : Opw R} {l : List (J6 R)} {s : J6 R} :
    s ∈ k.filterCompliant l ↔ s ∈ l ∧ k.compliant s = true := by
  unfold Opw.filterCompliant Opw.compliant
  cases k.cons with
  | none => simp
  | some c => simp [Constraints.filter, List.mem_filter]

theorem mem_sortByCloseness {k : Opw R} {l : List (J6 R)} {prev s : J6 R} :
    s ∈ k.sortByCloseness l prev ↔ s ∈ l := by
  unfold Opw.sortByCloseness
  exact (List.mergeSort_perm _ _).mem_iff

theorem compliant_of_cons {k : Opw R} {c : Constraints R} {s : J6 R}
    (hc : k.cons = some c) (h : k.compliant s = true) : c.compliant s = true := by
  unfold Opw.compliant at h
  rw [hc] at h
  exact h

theorem Opw.inverse_of_dof5 {k : Opw R} (hd : k.p.dof = 5) (pose : Iso R) :
    k.inverse pose = k.inverse5dof pose 0 := by
  unfold Opw.inverse; rw [if_pos (by simpa using hd)]

theorem Opw.inverse_of_dof6 {k : Opw R} (hd : k.p.dof ≠ 5) (pose : Iso R) :
    k.inverse pose = k.filterCompliant (inverseIntern k.p pose) := by
  unfold Opw.inverse; rw [if_neg (by simpa using hd)]

theorem Opw.inverseContinuing_of_dof5 {k : Opw R} (hd : k.p.dof = 5) (pose : Iso R) (prev : J6 R) :
    k.inverseContinuing pose prev = k.inverseContinuing5dof pose prev := by
  unfold Opw.inverseContinuing; rw [if_pos (by simpa using hd)]

theorem Opw.inverseContinuing_of_dof6 {k : Opw R} (hd : k.p.dof ≠ 5) (pose : Iso R) (prev : J6 R) :
    k.inverseContinuing pose prev = k.inverseContinuing6 pose prev := by
  unfold Opw.inverseContinuing; rw [if_neg (by simpa using hd)]

/-- a genuine previous position (not the `CONSTRAINT_CENTERED` NaN sentinel) is its own reference -/
theorem Opw.reference_of_not_nan (k : Opw R) {prev : J6 R} (h : isNaN prev.j1 = false) :
    k.reference prev = prev := by
  simp [Opw.reference, h]

theorem mem_inverse5dof {k : Opw R} {pose : Iso R} {j6 : R} {s : J6 R} :
    s ∈ k.inverse5dof pose j6 ↔ s ∈ inverseIntern5 k.p pose j6 ∧ k.compliant s = true :=
  mem_filterCompliant

theorem mem_inverse_of_dof6 {k : Opw R} (hd : k.p.dof ≠ 5) {pose : Iso R} {s : J6 R} :
    s ∈ k.inverse pose ↔ s ∈ inverseIntern k.p pose ∧ k.compliant s = true := by
  rw [Opw.inverse_of_dof6 hd, mem_filterCompliant]

/-- the common tail of the two continuing entry points -/
theorem mem_filter_sort_normalize {k : Opw R} {l : List (J6 R)} {ref s : J6 R} :
    s ∈ k.filterCompliant (k.sortByCloseness (l.map (fun s => s.normalizeNear ref)) ref) ↔
      (∃ s0 ∈ l, s = s0.normalizeNear ref) ∧ k.compliant s = true := by
  simp only [mem_filterCompliant, mem_sortByCloseness, List.mem_map, eq_comm]

theorem mem_inverseContinuing5dof {k : Opw R} {pose : Iso R} {prev s : J6 R} :
    s ∈ k.inverseContinuing5dof pose prev ↔
      (∃ s0 ∈ inverseIntern5 k.p pose prev.j6, s = s0.normalizeNear (k.reference prev)) ∧
        k.compliant s = true :=
  mem_filter_sort_normalize

theorem mem_inverseContinuing6 {k : Opw R} {pose : Iso R} {prev s : J6 R} :
    s ∈ k.inverseContinuing6 pose prev ↔
      (∃ s0 ∈ shiftLoop k pose (k.reference prev) shifts [], s = s0.normalizeNear (k.reference prev)) ∧
        k.compliant s = true :=
  mem_filter_sort_normalize

/-- first half of an iteration of the `'shifts` loop: the raw solutions of the shifted pose are taken
while there are none yet -/
def shiftSols (p : Params R) (pose : Iso R) (sols : List (J6 R)) (d : V3 R) : List (J6 R) :=
  if sols.isEmpty then sols ++ inverseIntern p (shiftPose pose d) else sols

/-- second half: the first singular raw solution of the shifted pose with J4/J6 redistributed, if it
passes the cross-check against the REQUESTED pose and the constraints; it is then pushed and the
loop left -/
def recovered (k : Opw R) (pose : Iso R) (previous : J6 R) (d : V3 R) : Option (J6 R) :=
  (((inverseIntern k.p (shiftPose pose d)).find?
      (fun s => kinematicSingularity k.p s && s.allFinite)).map (singularCandidate k.p previous)).filter
    (fun now => comparePoses pose (forward k.p now) distTol angTol && k.compliant now)

section Loop
variable {k : Opw R} {pose : Iso R} {previous : J6 R} {d : V3 R} {sols : List (J6 R)}

theorem mem_shiftSols {p : Params R} {s : J6 R} :
    s ∈ shiftSols p pose sols d ↔ s ∈ sols ∨ (sols = [] ∧ s ∈ inverseIntern p (shiftPose pose d)) := by
  cases sols <;> simp [shiftSols]

theorem shiftSols_eq_nil {p : Params R} :
    shiftSols p pose sols d = [] ↔ sols = [] ∧ inverseIntern p (shiftPose pose d) = [] := by
  cases sols <;> simp [shiftSols]

theorem recovered_sound {now : J6 R} (h : recovered k pose previous d = some now) :
    Sound k.p pose now ∧ k.compliant now = true := by
  have := (Option.filter_eq_some_iff.mp h).2
  rwa [Bool.and_eq_true] at this

theorem recovered_eq_some {now : J6 R} (h : recovered k pose previous d = some now) :
    ∃ s0 ∈ inverseIntern k.p (shiftPose pose d), now = singularCandidate k.p previous s0 := by
  obtain ⟨s0, hf, rfl⟩ := Option.map_eq_some_iff.1 (Option.filter_eq_some_iff.1 h).1
  exact ⟨s0, List.mem_of_find?_eq_some hf, rfl⟩

theorem shiftStep_eq : shiftStep k pose previous sols d =
    (shiftSols k.p pose sols d ++ (recovered k pose previous d).toList,
      (recovered k pose previous d).isSome) := by
  -- unfold the step, fold the shifted pose and the first half back
  simp only [shiftStep, recovered, ← shiftPose.eq_1, ← shiftSols.eq_1]
  cases (inverseIntern k.p (shiftPose pose d)).find? _ with
  | none => simp
  | some s0 =>
    by_cases h : (comparePoses pose (forward k.p (singularCandidate k.p previous s0)) distTol angTol &&
      k.compliant (singularCandidate k.p previous s0)) = true <;> simp [Option.filter, h]

theorem shiftLoop_cons {ds : List (V3 R)} : shiftLoop k pose previous (d :: ds) sols =
    if (shiftStep k pose previous sols d).2 then (shiftStep k pose previous sols d).1
    else shiftLoop k pose previous ds (shiftStep k pose previous sols d).1 := by
  rw [shiftLoop]

theorem shiftLoop_cons_of_none (h : recovered k pose previous d = none) {ds : List (V3 R)} :
    shiftLoop k pose previous (d :: ds) sols = shiftLoop k pose previous ds (shiftSols k.p pose sols d) := by
  simp [shiftLoop_cons, shiftStep_eq, h]

theorem shiftLoop_cons_of_some {now : J6 R} (h : recovered k pose previous d = some now)
    {ds : List (V3 R)} :
    shiftLoop k pose previous (d :: ds) sols = shiftSols k.p pose sols d ++ [now] := by
  simp [shiftLoop_cons, shiftStep_eq, h]

/-- Invariant of the `'shifts` loop.  Every vector in the result was already there, or passed the
cross-check against the REQUESTED pose and is the redistributed singular candidate of a raw solution
of some shifted pose, or (only when the loop was entered with no solutions) is a raw solution of the
FIRST shifted pose whose raw solution list is non-empty. -/
theorem mem_shiftLoop {k : Opw R} {pose : Iso R} {previous : J6 R} :
    ∀ (ds : List (V3 R)) (sols : List (J6 R)) (s : J6 R),
      s ∈ shiftLoop k pose previous ds sols →
      s ∈ sols ∨
        ((Sound k.p pose s ∧ k.compliant s = true) ∧ ∃ d ∈ ds,
          ∃ s0 ∈ inverseIntern k.p (shiftPose pose d), s = singularCandidate k.p previous s0) ∨
        (sols = [] ∧ ∃ pre d post, ds = pre ++ d :: post ∧
          (∀ d' ∈ pre, inverseIntern k.p (shiftPose pose d') = []) ∧
          s ∈ inverseIntern k.p (shiftPose pose d)) := by
  intro ds
  induction ds with
  | nil => intro sols s h; exact Or.inl h
  | cons d ds ih =>
    intro sols s h
    -- a vector taken in the first half of this iteration falls under the first or, with `pre = []`,
    -- the third alternative; so `s ∈ shiftSols …` may stand in for the first
    suffices h' : s ∈ shiftSols k.p pose sols d ∨ _ from
      h'.elim (fun h => (mem_shiftSols.mp h).imp_right fun ⟨he, hs⟩ =>
        Or.inr ⟨he, [], d, ds, rfl, by simp, hs⟩) Or.inr
    cases hr : recovered k pose previous d with
    | some now =>
      rw [shiftLoop_cons_of_some hr] at h
      refine (List.mem_append.mp h).imp_right fun h => ?_
      obtain rfl := List.mem_singleton.mp h
      exact Or.inl ⟨recovered_sound hr, d, List.mem_cons_self, recovered_eq_some hr⟩
    | none =>
      rw [shiftLoop_cons_of_none hr] at h
      refine (ih _ s h).imp_right fun h => ?_
      rcases h with ⟨h, d', hd', h'⟩ | ⟨he, pre, d0, post, rfl, hpre, hs⟩
      · exact Or.inl ⟨h, d', List.mem_cons_of_mem _ hd', h'⟩
      · -- nothing was taken in this iteration: there was nothing before and this shift gave nothing
        obtain ⟨rfl, hik⟩ := shiftSols_eq_nil.mp he
        exact Or.inr ⟨rfl, d :: pre, d0, post, rfl, List.forall_mem_cons.mpr ⟨hik, hpre⟩, hs⟩

end Loop

namespace Kin

/-! Which wrappers a stack may contain (`baseFrameOnly → plain → noPara`):
* `plain`: Tool, Base, Frame; the answers are exactly the core's answers
* `noPara`: Tool, Base, Frame, Shape; the answers are among the core's answers
* `baseFrameOnly`: Base, Frame; a Tool leaves the link poses alone, so only without one is the last
  link `forward`
* `JacStack.frameFree` (over ℝ, in `Lemmas/JacStack.lean`): everything but Frame, which moves the last
  link off the axis of joint 6 -/

def plain : Kin R → Prop
  | opw _ => True
  | tool i _ => plain i
  | base i _ => plain i
  | frame i _ => plain i
  | para _ _ _ _ => False
  | shape _ _ => False

def noPara : Kin R → Prop
  | opw _ => True
  | tool i _ => noPara i
  | base i _ => noPara i
  | frame i _ => noPara i
  | para _ _ _ _ => False
  | shape i _ => noPara i

def baseFrameOnly : Kin R → Prop
  | opw _ => True
  | tool _ _ => False
  | base i _ => baseFrameOnly i
  | frame i _ => baseFrameOnly i
  | para _ _ _ _ => False
  | shape _ _ => False

omit [OpwNum R] in
theorem baseFrameOnly.plain : ∀ {k : Kin R}, k.baseFrameOnly → k.plain := by
  intro k h
  induction k with
  | opw _ => trivial
  | base _ _ ih | frame _ _ ih => exact ih h
  | tool _ _ | para _ _ _ _ | shape _ _ => exact h.elim

omit [OpwNum R] in
theorem plain.noPara : ∀ {k : Kin R}, k.plain → k.noPara := by
  intro k h
  induction k with
  | opw _ => trivial
  | tool _ _ ih | base _ _ ih | frame _ _ ih => exact ih h
  | para _ _ _ _ | shape _ _ => exact h.elim

/-- the pose the innermost solver is asked for: the wrappers stripped from outside in -/
def localPose : Kin R → Iso R → Iso R
  | opw _, pose => pose
  | tool i t, pose => localPose i (pose.mul t.inv)
  | base i b, pose => localPose i (b.inv.mul pose)
  | frame i f, pose => localPose i (pose.mul f.inv)
  | para i _ _ _, pose => localPose i pose
  | shape i _, pose => localPose i pose

/-- the one shape of the four inverse entry points of a stack; `f` is the entry point of the
innermost solver with its extra argument fixed -/
def lift (f : Opw R → Iso R → List (J6 R)) : Kin R → Iso R → List (J6 R)
  | opw k, pose => f k pose
  | tool i t, pose => lift f i (pose.mul t.inv)
  | base i b, pose => lift f i (b.inv.mul pose)
  | frame i fr, pose => lift f i (pose.mul fr.inv)
  | para i s d c, pose => (lift f i pose).map (paraCouple s d c)
  | shape i col, pose => removeCollisions col (lift f i pose)

theorem inverse_eq_lift (k : Kin R) (pose : Iso R) : k.inverse pose = k.lift Opw.inverse pose := by
  induction k generalizing pose with
  | opw _ => rfl
  | tool _ _ ih | base _ _ ih | frame _ _ ih => exact ih _
  | para _ s d c ih => exact congrArg (List.map (paraCouple s d c)) (ih pose)
  | shape _ col ih => exact congrArg (removeCollisions col) (ih pose)

theorem inverseContinuing_eq_lift (k : Kin R) (pose : Iso R) (prev : J6 R) :
    k.inverseContinuing pose prev = k.lift (fun o p => o.inverseContinuing p prev) pose := by
  induction k generalizing pose with
  | opw _ => rfl
  | tool _ _ ih | base _ _ ih | frame _ _ ih => exact ih _
  | para _ s d c ih => exact congrArg (List.map (paraCouple s d c)) (ih pose)
  | shape _ col ih => exact congrArg (removeCollisions col) (ih pose)

theorem inverse5dof_eq_lift (k : Kin R) (pose : Iso R) (j6 : R) :
    k.inverse5dof pose j6 = k.lift (fun o p => o.inverse5dof p j6) pose := by
  induction k generalizing pose with
  | opw _ => rfl
  | tool _ _ ih | base _ _ ih | frame _ _ ih => exact ih _
  | para _ s d c ih => exact congrArg (List.map (paraCouple s d c)) (ih pose)
  | shape _ col ih => exact congrArg (removeCollisions col) (ih pose)

theorem inverseContinuing5dof_eq_lift (k : Kin R) (pose : Iso R) (prev : J6 R) :
    k.inverseContinuing5dof pose prev = k.lift (fun o p => o.inverseContinuing5dof p prev) pose := by
  induction k generalizing pose with
  | opw _ => rfl
  | tool _ _ ih | base _ _ ih | frame _ _ ih => exact ih _
  | para _ s d c ih => exact congrArg (List.map (paraCouple s d c)) (ih pose)
  | shape _ col ih => exact congrArg (removeCollisions col) (ih pose)

variable {f g : Opw R → Iso R → List (J6 R)}

theorem lift_plain (k : Kin R) (h : k.plain) (pose : Iso R) :
    k.lift f pose = f k.core (k.localPose pose) := by
  induction k generalizing pose with
  | opw _ => rfl
  | tool _ _ ih | base _ _ ih | frame _ _ ih => exact ih h _
  | para _ _ _ _ | shape _ _ => exact h.elim

theorem lift_noPara_mem (k : Kin R) (h : k.noPara) (pose : Iso R) (s : J6 R)
    (hs : s ∈ k.lift f pose) : s ∈ f k.core (k.localPose pose) := by
  induction k generalizing pose with
  | opw _ => exact hs
  | tool _ _ ih | base _ _ ih | frame _ _ ih => exact ih h _ hs
  | para _ _ _ _ => exact h.elim
  | shape _ _ ih => exact ih h _ (List.mem_filter.mp hs).1

theorem lift_congr (k : Kin R) (h : ∀ pose, f k.core pose = g k.core pose) (pose : Iso R) :
    k.lift f pose = k.lift g pose := by
  induction k generalizing pose with
  | opw _ => exact h pose
  | tool _ _ ih | base _ _ ih | frame _ _ ih => exact ih h _
  | para _ s d c ih => exact congrArg (List.map (paraCouple s d c)) (ih h pose)
  | shape _ col ih => exact congrArg (removeCollisions col) (ih h pose)

theorem noPara_inverse_mem (k : Kin R) (h : k.noPara) (pose : Iso R) (s : J6 R)
    (hs : s ∈ k.inverse pose) : s ∈ k.core.inverse (k.localPose pose) :=
  lift_noPara_mem k h pose s (inverse_eq_lift k pose ▸ hs)

theorem noPara_inverseContinuing_mem (k : Kin R) (h : k.noPara) (pose : Iso R) (prev s : J6 R)
    (hs : s ∈ k.inverseContinuing pose prev) :
    s ∈ k.core.inverseContinuing (k.localPose pose) prev :=
  lift_noPara_mem k h pose s (inverseContinuing_eq_lift k pose prev ▸ hs)

theorem noPara_inverse5dof_mem (k : Kin R) (h : k.noPara) (pose : Iso R) (j6 : R) (s : J6 R)
    (hs : s ∈ k.inverse5dof pose j6) : s ∈ k.core.inverse5dof (k.localPose pose) j6 :=
  lift_noPara_mem k h pose s (inverse5dof_eq_lift k pose j6 ▸ hs)

theorem noPara_inverseContinuing5dof_mem (k : Kin R) (h : k.noPara) (pose : Iso R) (prev s : J6 R)
    (hs : s ∈ k.inverseContinuing5dof pose prev) :
    s ∈ k.core.inverseContinuing5dof (k.localPose pose) prev :=
  lift_noPara_mem k h pose s (inverseContinuing5dof_eq_lift k pose prev ▸ hs)

end Kin

namespace Ex

/-- a 6-DOF parameter set (IRB 2400/10-like numbers) -/
def p6 : Params Float :=
  ⟨0.1, -0.135, 0.0, 0.615, 0.705, 0.755, 0.085,
   ⟨0.0, 0.0, -1.5707963267948966, 0.0, 0.0, 0.0⟩, ⟨1.0, 1.0, 1.0, 1.0, 1.0, 1.0⟩, 6⟩

def p5 : Params Float := { p6 with dof := 5 }

def cons : Constraints Float :=
  Constraints.ofDegrees ⟨-90.0, -90.0, -90.0, -90.0, -90.0, -90.0⟩ ⟨90.0, 90.0, 90.0, 90.0, 90.0, 90.0⟩
    byPrev

def k6 : Opw Float := ⟨p6, none⟩
def k6c : Opw Float := ⟨p6, some cons⟩
def k5 : Opw Float := ⟨p5, none⟩
def k5c : Opw Float := ⟨p5, some cons⟩

def pose : Iso Float := ⟨⟨0.9, 0.1, 1.2⟩, ⟨1.0, 0.0, 0.0, 0.0⟩⟩
def prev : J6 Float := ⟨0.1, 0.2, 0.3, 0.4, 0.5, 0.6⟩
def tcp : Iso Float := ⟨⟨0.0, 0.0, 0.2⟩, ⟨1.0, 0.0, 0.0, 0.0⟩⟩

def stack6 : Kin Float := .frame (.base (.tool (.opw k6c) tcp) tcp) tcp
def stack6s : Kin Float := .shape stack6 (fun _ => false)
def stack5 : Kin Float := .tool (.opw k5c) tcp

theorem p6_dof : p6.dof ≠ 5 := by decide
theorem p5_dof : p5.dof = 5 := rfl
theorem stack6_plain : stack6.plain := trivial
theorem stack5_plain : stack5.plain := trivial
theorem stack6s_noPara : stack6s.noPara := trivial

end Ex

end Opw
