/-
  Wrapper stacks (C09) and parallelogram coupling (C16).  A stack's forward pose is
  `baseOf * core * toolOf`, and the inverse entry points ask the core for the pose with the wrappers'
  inverses applied; over ℝ everything reduces to what ONE wrapper does to a pose and an induction over
  the stack.  The coupling reads and writes joints through `J6.get`/`J6.set`, which address slots (every
  index from 5 on is joint 6); the round trip follows from four get/set laws.
-/
import OpwVerif.Lemmas.Chain
import OpwVerif.Lemmas.Sound
import Mathlib.Tactic.IntervalCases

namespace Opw

section Generic
variable {R : Type}

namespace Kin
variable [OpwNum R]

/-- accumulated `Base` transforms, outermost first: `b_outer * … * b_inner` -/
def baseOf : Kin R → Iso R
  | opw _ => Iso.one
  | tool i _ => baseOf i
  | base i b => b.mul (baseOf i)
  | frame i _ => baseOf i
  | para i _ _ _ => baseOf i
  | shape i _ => baseOf i

/-- accumulated `Tool` and `Frame` transforms, innermost first: `t_inner * … * t_outer` -/
def toolOf : Kin R → Iso R
  | opw _ => Iso.one
  | tool i t => (toolOf i).mul t
  | base i _ => toolOf i
  | frame i f => (toolOf i).mul f
  | para i _ _ _ => toolOf i
  | shape i _ => toolOf i

end Kin

/-- the slot a joint index addresses: `J6.get`/`J6.set` treat every index `≥ 5` as joint 6 -/
def slot (n : Nat) : Nat := min n 5

theorem slot_lt (n : Nat) : slot n < 6 := Nat.lt_succ_of_le (Nat.min_le_right n 5)

theorem slot_add_five (n : Nat) : slot (n + 5) = 5 := Nat.min_eq_right (Nat.le_add_left 5 n)

theorem J6.get_add_five (q : J6 R) (n : Nat) : q.get (n + 5) = q.j6 := rfl

theorem J6.set_add_five (q : J6 R) (n : Nat) (v : R) : q.set (n + 5) v = { q with j6 := v } := rfl

theorem J6.get_slot (q : J6 R) : ∀ n, q.get (slot n) = q.get n
  | 0 => rfl | 1 => rfl | 2 => rfl | 3 => rfl | 4 => rfl
  | n + 5 => by rw [slot_add_five, J6.get_add_five]; rfl

theorem J6.set_slot (q : J6 R) (v : R) : ∀ n, q.set (slot n) v = q.set n v
  | 0 => rfl | 1 => rfl | 2 => rfl | 3 => rfl | 4 => rfl
  | n + 5 => by rw [slot_add_five, J6.set_add_five]; rfl

theorem paraCouple_slot [OpwNum R] (s : R) (d c : Nat) (x : J6 R) :
    paraCouple s (slot d) (slot c) x = paraCouple s d c x := by
  unfold paraCouple
  rw [J6.set_slot, J6.get_slot, J6.get_slot]

theorem paraUncouple_slot [OpwNum R] (s : R) (d c : Nat) (x : J6 R) :
    paraUncouple s (slot d) (slot c) x = paraUncouple s d c x := by
  unfold paraUncouple
  rw [J6.set_slot, J6.get_slot, J6.get_slot]

theorem J6.get_set_self (q : J6 R) (v : R) : ∀ i, (q.set i v).get i = v
  | 0 => rfl | 1 => rfl | 2 => rfl | 3 => rfl | 4 => rfl
  | n + 5 => by rw [J6.set_add_five, J6.get_add_five]

theorem J6.get_set_of_ne (q : J6 R) (v : R) {i j : Nat} (h : slot i ≠ slot j) :
    (q.set i v).get j = q.get j := by
  -- pass to the slots, which are below 6: 36 closed cases
  have hi := slot_lt i
  have hj := slot_lt j
  rw [← J6.set_slot, ← J6.get_slot _ j, ← J6.get_slot q j]
  generalize slot i = a, slot j = b at h hi hj
  interval_cases a <;> interval_cases b <;> first | rfl | exact absurd rfl h

theorem J6.set_set (q : J6 R) (v w : R) : ∀ i, (q.set i v).set i w = q.set i w
  | 0 => rfl | 1 => rfl | 2 => rfl | 3 => rfl | 4 => rfl
  | n + 5 => by rw [J6.set_add_five, J6.set_add_five, J6.set_add_five]

theorem J6.set_get (q : J6 R) : ∀ i, q.set i (q.get i) = q
  | 0 => rfl | 1 => rfl | 2 => rfl | 3 => rfl | 4 => rfl
  | n + 5 => by rw [J6.set_add_five, J6.get_add_five]

end Generic

theorem chain_last (p : Params ℝ) (j : J6 ℝ) :
    ∃ l1 l2 l3 l4 l5 l6, chain p j = [l1, l2, l3, l4, l5, l6] ∧
      Iso.Same (forward p j) l6 ∧ l6.q.normSq = 1 := by
  have h6 := lnk6_is p (thetaOf p j)
  exact ⟨_, _, _, _, _, _, chainTheta_eq p _,
    ⟨(forward_t p j).trans h6.org.symm, (forward_toMat p j).trans h6.rot.symm⟩, h6.unit⟩

namespace Kin

/-- every wrapper isometry of the stack carries a unit quaternion -/
def WF : Kin ℝ → Prop
  | opw _ => True
  | tool i t => WF i ∧ t.q.normSq = 1
  | base i b => WF i ∧ b.q.normSq = 1
  | frame i f => WF i ∧ f.q.normSq = 1
  | para i _ _ _ => WF i
  | shape i _ => WF i

theorem baseOf_unit : ∀ (k : Kin ℝ), k.WF → k.baseOf.q.normSq = 1 := by
  intro k h
  induction k with
  | opw _ => exact Iso.one_unit
  | base _ b ih => exact Iso.mul_unit b _ h.2 (ih h.1)
  | tool _ _ ih | frame _ _ ih => exact ih h.1
  | para _ _ _ _ ih | shape _ _ ih => exact ih h

theorem toolOf_unit (k : Kin ℝ) (h : k.WF) : k.toolOf.q.normSq = 1 := by
  induction k with
  | opw _ => exact Iso.one_unit
  | tool _ t ih | frame _ t ih => exact Iso.mul_unit _ t (ih h.1) h.2
  | base _ _ ih => exact ih h.1
  | para _ _ _ _ ih | shape _ _ ih => exact ih h

theorem forward_unit : ∀ (k : Kin ℝ), k.WF → ∀ q, (k.forward q).q.normSq = 1 := by
  intro k h q
  induction k generalizing q with
  | opw k => exact Opw.forward_unit k.p q
  | tool _ t ih | frame _ t ih => exact Iso.mul_unit _ t (ih h.1 q) h.2
  | base _ b ih => exact Iso.mul_unit b _ h.2 (ih h.1 q)
  | para _ s d c ih => exact ih h (paraUncouple s d c q)
  | shape _ _ ih => exact ih h q

theorem stack_forward : ∀ (k : Kin ℝ), k.plain → k.WF → ∀ q,
    k.forward q = k.baseOf.mul ((_root_.Opw.forward k.core.p q).mul k.toolOf) := by
  intro k hp hw q
  induction k with
  | opw k =>
    show _root_.Opw.forward k.p q = Iso.one.mul ((_root_.Opw.forward k.p q).mul Iso.one)
    rw [Iso.mul_one, Iso.one_mul]
  | tool i t ih | frame i t ih =>
    show (i.forward q).mul t = i.baseOf.mul ((_root_.Opw.forward i.core.p q).mul (i.toolOf.mul t))
    rw [ih hp hw.1, Iso.mul_mul_mul_assoc _ _ _ t (baseOf_unit i hw.1)
      (Opw.forward_unit i.core.p q) (toolOf_unit i hw.1)]
  | base i b ih =>
    show b.mul (i.forward q) = (b.mul i.baseOf).mul ((_root_.Opw.forward i.core.p q).mul i.toolOf)
    rw [ih hp hw.1, Iso.mul_assoc b _ _ hw.2 (baseOf_unit i hw.1)]
  | para _ _ _ _ | shape _ _ => exact hp.elim

/-- one wrapper is peeled per step -/
theorem stack_maps_back_iff (k : Kin ℝ) (hp : k.plain) (hw : k.WF) (pose : Iso ℝ)
    (hu : pose.q.normSq = 1) (s : J6 ℝ) :
    k.forward s = pose ↔ _root_.Opw.forward k.core.p s = k.localPose pose := by
  induction k generalizing pose with
  | opw _ => exact Iff.rfl
  | tool i t ih | frame i t ih =>
    exact (Iso.mul_eq_iff_eq_mul_inv (forward_unit i hw.1 s) hw.2 hu).trans
      (ih hp hw.1 _ (Iso.mul_unit _ _ hu (Iso.inv_unit t hw.2)))
  | base i b ih =>
    exact (Iso.mul_eq_iff_eq_inv_mul hw.2).trans
      (ih hp hw.1 _ (Iso.mul_unit _ _ (Iso.inv_unit b hw.2) hu))
  | para _ _ _ _ | shape _ _ => exact hp.elim

theorem stack_maps_back : ∀ (k : Kin ℝ), k.plain → k.WF → ∀ (pose : Iso ℝ), pose.q.normSq = 1 →
    ∀ s, _root_.Opw.forward k.core.p s = k.localPose pose → k.forward s = pose :=
  fun k hp hw pose hu s => (stack_maps_back_iff k hp hw pose hu s).mpr

theorem stack_maps_back_same : ∀ (k : Kin ℝ), k.plain → k.WF → ∀ (pose : Iso ℝ),
    pose.q.normSq = 1 → ∀ s, Iso.Same (_root_.Opw.forward k.core.p s) (k.localPose pose) →
      Iso.Same (k.forward s) pose := by
  intro k hp hw pose hu s h
  induction k generalizing pose with
  | opw _ => exact h
  | tool i t ih | frame i t ih =>
    exact Iso.Same.mul_of_mul_inv (forward_unit i hw.1 s) hw.2 hu
      (ih hp hw.1 _ (Iso.mul_unit _ _ hu (Iso.inv_unit t hw.2)) h)
  | base i b ih =>
    exact Iso.Same.mul_of_inv_mul hw.2 (ih hp hw.1 _ (Iso.mul_unit _ _ (Iso.inv_unit b hw.2) hu) h)
  | para _ _ _ _ | shape _ _ => exact hp.elim

theorem links_last : ∀ (k : Kin ℝ), k.baseFrameOnly → k.WF → ∀ q,
    ∃ l1 l2 l3 l4 l5 l6, k.links q = [l1, l2, l3, l4, l5, l6] ∧
      Iso.Same (k.forward q) l6 ∧ l6.q.normSq = 1 := by
  intro k hp hw q
  induction k with
  | opw k => exact chain_last k.p q
  | base i b ih =>
    obtain ⟨l1, l2, l3, l4, l5, l6, hl, hs, hu⟩ := ih hp hw.1
    exact ⟨_, _, _, _, _, _, congrArg (List.map fun x => b.mul x) hl, hs.mul_left b,
      Iso.mul_unit b l6 hw.2 hu⟩
  | frame i f ih =>
    obtain ⟨l1, l2, l3, l4, l5, l6, hl, hs, hu⟩ := ih hp hw.1
    refine ⟨l1, l2, l3, l4, l5, l6.mul f, ?_, hs.mul_right f (forward_unit i hw.1 q) hu,
      Iso.mul_unit l6 f hu hw.2⟩
    simp only [links, hl]
  | tool _ _ | para _ _ _ _ | shape _ _ => exact hp.elim

end Kin

/-- on distinct slots, uncoupling undoes coupling: the coupled joint is written twice and the
driven joint is not touched -/
theorem paraUncouple_paraCouple (s : ℝ) (d c : Nat) (h : slot d ≠ slot c) (x : J6 ℝ) :
    paraUncouple s d c (paraCouple s d c x) = x := by
  unfold paraUncouple paraCouple
  rw [J6.get_set_self, J6.get_set_of_ne _ _ h.symm, J6.set_set, add_sub_cancel_right, J6.set_get]

theorem paraCouple_paraUncouple (s : ℝ) (d c : Nat) (h : slot d ≠ slot c) (x : J6 ℝ) :
    paraCouple s d c (paraUncouple s d c x) = x := by
  unfold paraUncouple paraCouple
  rw [J6.get_set_self, J6.get_set_of_ne _ _ h.symm, J6.set_set, sub_add_cancel, J6.set_get]

end Opw
